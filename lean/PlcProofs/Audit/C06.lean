import PlcProofs.Props.C06
#print axioms C06.merge_perm
#print axioms C06.parse_stage_perm
#print axioms C06.duplicate_stage_perm
#print axioms C06.recursive_stage_perm
#print axioms C06.site_rules_perm
#print axioms C06.analyze_same
#print axioms C06.verdict_perm
#print axioms C06.codes_perm

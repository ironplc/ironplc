import PlcProofs.Props.C02
#print axioms C02.mem_ruleStruct
#print axioms C02.struct_rule
#print axioms C02.struct_rule_only
#print axioms C02.mem_ruleSubrange
#print axioms C02.subrange_rule
#print axioms C02.mem_ruleEnumUnique
#print axioms C02.enum_unique_rule
#print axioms C02.mem_ruleTask
#print axioms C02.task_rule
#print axioms C02.mem_ruleVarUse
#print axioms C02.var_use_rule
#print axioms C02.mem_ruleConstFb
#print axioms C02.const_fb_rule
#print axioms C02.mem_ruleExternalConst
#print axioms C02.external_const_rule
#print axioms C02.mem_ruleStdlib
#print axioms C02.stdlib_rule
#print axioms C02.call_unresolved
#print axioms C02.first_of_four
#print axioms C02.badName_iff
#print axioms C02.call_resolved
#print axioms C02.callCode_codes
#print axioms C02.fb_call_rule
#print axioms C02.mem_ruleConstInit
#print axioms C02.const_init_rule
#print axioms C02.enumCheck_eq_some
#print axioms C02.mem_ruleEnumUse
#print axioms C02.enum_use_rule
#print axioms C02.analyze_ok_iff
#print axioms C02.no_spurious_P0004
#print axioms C02.single_fault_P0004
#print axioms C02.stage_order_is_code
#print axioms C02.staged_pipeline
#print axioms C02.stage_codes_are_code
#print axioms C02.stage_codes_published
#print axioms C02.rule_reports_only_its_codes

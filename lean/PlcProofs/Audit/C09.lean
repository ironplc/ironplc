import PlcProofs.Props.C09
#print axioms C09.foldl_positional
#print axioms C09.natOfDigits_go
#print axioms C09.natOfDigits_eq
#print axioms C09.natOfDigits_value
#print axioms C09.natOfDigits_reject
#print axioms C09.lt_of_guard
#print axioms C09.integerNew_range
#print axioms C09.integerBased_range
#print axioms C09.durationOfUnits_eq
#print axioms C09.duration_exact
#print axioms C09.duration_subnanosecond_rejected
#print axioms C09.duration_overflow_rejected
#print axioms C09.durationOfUnits_split
#print axioms C09.duration_sum
#print axioms C09.tod_fields_in_range
#print axioms C09.date_is_calendar_date
#print axioms C09.filter_underscore
#print axioms C09.fixedPoint_underscores_ignored
#print axioms C09.integer_underscores_ignored
#print axioms C09.integerNew_underscore

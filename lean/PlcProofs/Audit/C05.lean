import PlcProofs.Props.C05
#print axioms C05.contig_of_cuts
#print axioms C05.lexWith_items
#print axioms C05.lex_tiling
#print axioms C05.lex_contiguous
#print axioms C05.token_line_col
#print axioms C05.lexItems_tiling
#print axioms C05.preprocess_keeps_positions
#print axioms C05.insertSemis_only_adds

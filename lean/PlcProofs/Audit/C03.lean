import PlcProofs.Props.C03
#print axioms C03.parse_error_never_masked
#print axioms C03.duplicate_never_collapsed
#print axioms C03.duplicate_is_diagnosed
#print axioms C03.local_fault_never_masked
#print axioms C03.set_with_local_fault_fails
#print axioms C03.adding_files_never_cures

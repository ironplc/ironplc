import PlcProofs.Props.C13
#print axioms C13.createProject_error
#print axioms C13.check_exit0_iff_ok_iff_no_diag
#print axioms C13.check_nonzero_has_coded_diag
#print axioms C13.enumerate_dir
#print axioms C13.dir_equals_file_list
#print axioms C13.exit0_iff_all
#print axioms C13.echo_exit0_iff_all_parse
#print axioms C13.tokenize_exit0_iff_all_tokenize
#print axioms C13.enumerate_missing
#print axioms C13.missing_path_fails

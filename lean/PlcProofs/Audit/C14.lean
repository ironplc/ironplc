import PlcProofs.Props.C14
#print axioms C14.utf8_roundtrip
#print axioms C14.decode_utf8_bom
#print axioms C14.decodeFile_noBom
#print axioms C14.decode_utf8
#print axioms C14.decode_flatMap
#print axioms C14.unitsOf_bytesOfUnit
#print axioms C14.char_range
#print axioms C14.decodeUnits_unitsOfChar
#print axioms C14.unitsOfChar_lt
#print axioms C14.utf16_roundtrip
#print axioms C14.decode_utf16_bom
#print axioms C14.decode_cp1252
#print axioms C14.decode_total
#print axioms C14.cp1252Back_char
#print axioms C14.cp1252_left_inverse
#print axioms C14.cp1252_ascii

import PlcProofs.Props.C08
#print axioms C08.all_patterns_case_closed
#print axioms C08.lexOne_respell
#print axioms C08.choose_respell
#print axioms C08.lex_case_invariant
#print axioms C08.lexItems_case_invariant
#print axioms C08.text_rules_ignore_case
#print axioms C08.text_literals_covered
#print axioms C08.tokEq_case_invariant

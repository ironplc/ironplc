import PlcProofs.Lemmas.Climb
import PlcProofs.Lemmas.MirrorFb

/-!
# C01 — parsing is faithful

What is proved here:
* the generated precedence table (`Gen.prec`, re-extracted from `parser.rs` on every run) is exactly
  IEC 61131-3 Annex B.3.1: OR < XOR < AND < {=, <>} < {<, >, <=, >=} < {+, -} < {*, /, MOD} < **, every
  operator left-associative and bound to the constructor and operator it denotes;
* precedence climbing — the algorithm rust-peg generates for `precedence!{}` and that
  `Parse.climb`/`Parse.climbLoop` mirror — parses the minimal-parenthesis printing of *every*
  expression tree, of any depth, back to that tree, for *every* assignment of precedences to
  left-associative operators (hence for the generated table): nothing is re-associated;

* `mirror_expression_roundtrip` — the same round trip for the **mirror itself**: the functions
  `Parse.expression / climb / climbLoop / atom / unaryExpression / primaryExpression` that the
  correspondence check runs against `parse_program`, driven by `Gen.prec`, read the minimal-parenthesis
  token list of every expression tree over names, unsigned integer literals, unary and binary operators (any size, any depth) back to
  exactly the tree the grammar actions build for it, with the fuel the driver really uses
  (`Parse.fuelFor`); `mirror_reads_any_parenthesisation` is the general form (redundant parentheses
  anywhere leave no node);

* `mirror_statement_list_roundtrip` — one level up, again for the mirror itself (`Parse.statementList`,
  `statementsOrEmpty`, `statement`, `ifStatement`, `caseStatement`, `forStatement`, `whileStatement`, `repeatStatement`): the token list of every
  statement list built from assignments to named variables, IF … THEN … {ELSIF … THEN …} [ELSE …] END_IF, WHILE … DO … END_WHILE,
  REPEAT … UNTIL … END_REPEAT, FOR … := … TO … [BY …] DO … END_FOR, CASE … OF {n {, n} : …} [ELSE …] END_CASE
  (unsigned integer selectors), function block invocations `inst(n := e {, n := e})` with named inputs, EXIT and RETURN — nested to any depth, bodies of any length, any `MX.S`
  expression as condition or right-hand side — is read back as exactly the list of trees the grammar actions
  build: every statement, in order, each body under the statement it was written in (nothing dropped,
  duplicated, reordered or re-nested), with the fuel the driver really uses;

* `mirror_library_roundtrip` — the `library_roundtrip` of DESIGN.md (section 4, C01) for a family of whole libraries:
  `Parse.library` (the function behind the model's `parseProgram`) reads the token list of every library made of programs
  `PROGRAM name statements END_PROGRAM` (no variable blocks; the statements above) back to exactly the library that was
  written — the programs in source order, each with its name and its statements; the whole input is consumed;
  `mirror_library_roundtrip_vars` adds a VAR block of elementary-typed variables to each program,
  `mirror_library_roundtrip_pous` function blocks of the same shape and functions
  `FUNCTION name : T statements END_FUNCTION` (elementary return type, no variable blocks), mixed with the programs in any order;

The executable mirror of the whole grammar (`PlcModel/Parse/*.lean`) is tied to `parse_program` by
the correspondence check (every fixture, every production of the reference grammar, every ordered
operator pair in both nestings); a machine-checked round-trip theorem for the *full* mirror
(`library_roundtrip` for every production: variable blocks other than VAR with elementary types, types, configurations, SFC) is
not proved: the partial
results are the ones above, the rest is held by the correspondence.
-/

namespace C01

/-- the Annex B.3.1 table: (level, token, constructor, operator) — weakest first -/
def annexB : List (Nat × String × String × String) := [
  (0, "Or", "compare", "Or"), (1, "Xor", "compare", "Xor"), (2, "And", "compare", "And"),
  (3, "Equal", "compare", "Eq"), (3, "NotEqual", "compare", "Ne"),
  (4, "Less", "compare", "Lt"), (4, "Greater", "compare", "Gt"), (4, "LessEqual", "compare", "LtEq"), (4, "GreaterEqual", "compare", "GtEq"),
  (5, "Plus", "binary", "Add"), (5, "Minus", "binary", "Sub"),
  (6, "Star", "binary", "Mul"), (6, "Div", "binary", "Div"), (6, "Mod", "binary", "Mod"),
  (7, "Power", "binary", "Pow")]

/-- The precedence block of `expression()` is Annex B.3.1, all operators left-associative. -/
theorem prec_table_is_annexB :
    Gen.prec.map (fun r => (r.level, r.token, r.ctor, r.op)) = annexB ∧ Gen.prec.all (·.leftAssoc) = true :=
  ⟨rfl, rfl⟩

/-- Precedence climbing round-trips the minimal-parenthesis printing of every expression tree, for
every precedence assignment (unbounded depth; `NoOp rest`: what follows is not an operator). -/
theorem climbing_roundtrip (e : Climb.Expr) (rest : List Climb.Tok) (h : Climb.NoOp rest) :
    ∃ fuel, Climb.parseE fuel 0 (Climb.pr 0 e ++ rest) = .ok e rest :=
  Climb.roundtrip e rest h

/-- more fuel never changes an answer -/
theorem climbing_fuel_monotone (f k m : Nat) (ts : List Climb.Tok) (r : Climb.Res)
    (h : Climb.parseE f m ts = r) (hr : r ≠ .oof) : Climb.parseE (f + k) m ts = r :=
  h ▸ Climb.monoE (Nat.le_add_right f k) (h ▸ hr)

/-- what may follow an expression: a token that is no operator of the table, no `#`, `(`, `[`, `.` and no layout
(`;`, `THEN`, `)`, `,`, `DO`, … all qualify); the lemmas say it as `MX.Ends`, the same proposition -/
def Ends (rest : List Item) : Prop :=
  ∀ t ts, rest = t :: ts → MX.okNext t.ty = true ∧ ∀ row ∈ Gen.prec, t.ty ≠ row.token

/-- **Round trip through the parser mirror**, for every expression tree over the generated precedence table. -/
theorem mirror_expression_roundtrip (lp rp : Item) (hlp : lp.ty = "LeftParen") (hrp : rp.ty = "RightParen")
    (e : MX.E) (he : e.Ok) (rest : List Item) (hrest : Ends rest) :
    Parse.expression (Parse.fuelFor ((MX.E.pr lp rp 0 e).toks ++ rest).length) ((MX.E.pr lp rp 0 e).toks ++ rest)
      = some (e.sx, rest) := by
  rw [← MX.E.pr_sx lp rp e 0]
  exact MX.expression_roundtrip (MX.E.pr_wf lp rp hlp hrp e he 0) hrest

/-- General form: any token list of the expression syntax `MX.S` that respects the levels (`WF 0`: an
un-parenthesised operator binds at least as tightly as its position requires; parentheses may be added
anywhere) is read as its tree, the parentheses leaving no node. -/
theorem mirror_reads_any_parenthesisation (s : MX.S) (hs : s.WF 0) (rest : List Item) (hrest : Ends rest) :
    Parse.expression (Parse.fuelFor (s.toks ++ rest).length) (s.toks ++ rest) = some (s.sx, rest) :=
  MX.expression_roundtrip hs hrest

/-- non-vacuity: `- a + b * c` over rows 9 (`+`, level 5) and 11 (`*`, level 6) of the generated table meets `Ok`,
and `;` meets `Ends` -/
example : (MX.E.bin ⟨5, "Plus", "binary", "Operator", "Add", true⟩ ⟨false, "Plus", 0, 0, 0, 0, ['+']⟩
            (.un ⟨false, "Minus", 0, 0, 0, 0, ['-']⟩ true (.leaf ⟨false, "Identifier", 0, 0, 0, 0, ['a']⟩))
            (.bin ⟨6, "Star", "binary", "Operator", "Mul", true⟩ ⟨false, "Star", 0, 0, 0, 0, ['*']⟩
              (.leaf ⟨false, "Identifier", 0, 0, 0, 0, ['b']⟩) (.leaf ⟨false, "Identifier", 0, 0, 0, 0, ['c']⟩))).Ok :=
  ⟨List.mem_of_getElem? (i := 9) rfl, rfl, ⟨rfl, rfl⟩, List.mem_of_getElem? (i := 11) rfl, rfl, rfl, rfl⟩
example : Ends [⟨false, "Semicolon", 0, 0, 0, 0, [';']⟩] := MX.ends_kw rfl

/-- **Round trip of statement lists through the parser mirror** (statement nesting).  `K` is the keyword after the
list (END_IF, ELSE, UNTIL, END_WHILE, END_PROGRAM, …). -/
theorem mirror_statement_list_roundtrip (l : MX.Stl) (hl : l.WF) (hne : l.isNil = false) (K : Item) (R : List Item)
    (hK : MX.isCloser K.ty = true) :
    Parse.statementList (Parse.fuelFor (l.toks ++ K :: R).length) (l.toks ++ K :: R) = some (l.sxs, K :: R) :=
  MX.statementList_roundtrip hl hne R hK

/-- non-vacuity: `WHILE a DO IF b THEN x := c; ELSIF d THEN RETURN; ELSE EXIT; END_IF; END_WHILE;` meets `WF` -/
example :
    let id (s : String) : Item := ⟨false, "Identifier", 0, 0, 0, 0, s.toList⟩
    let kw (ty s : String) : Item := ⟨false, ty, 0, 0, 0, 0, s.toList⟩
    let semi := kw "Semicolon" ";"
    (MX.Stl.cons (.whileS (kw "While" "WHILE") (kw "Do" "DO") (.leaf (id "a"))
        (.cons (.ifElse (kw "If" "IF") (kw "Then" "THEN") (.leaf (id "b"))
                  (.cons (.assign (id "x") (kw "Assignment" ":=") (.leaf (id "c"))) semi .nil)
                  (.cons (kw "Elsif" "ELSIF") (kw "Then" "THEN") (.leaf (id "d"))
                     (.cons (.returnS (kw "Return" "RETURN")) semi .nil) .nil)
                  (kw "Else" "ELSE") (.cons (.exitS (kw "Exit" "EXIT")) semi .nil) (kw "EndIf" "END_IF")) semi .nil)
        (kw "EndWhile" "END_WHILE")) semi .nil).WF := by
  intro id kw semi
  exact ⟨⟨rfl, rfl, rfl, rfl, ⟨⟨rfl, rfl, rfl, rfl, rfl, ⟨⟨rfl, rfl, rfl⟩, rfl, trivial⟩, ⟨rfl, rfl, trivial⟩, rfl,
    ⟨rfl, rfl, rfl, ⟨rfl, rfl, trivial⟩, rfl, trivial⟩⟩, rfl, trivial⟩, rfl⟩, rfl, trivial⟩

/-- non-vacuity: `CASE a OF 1, 2: x := b; 3: EXIT; ELSE RETURN; END_CASE;` meets `WF` -/
example :
    let id (s : String) : Item := ⟨false, "Identifier", 0, 0, 0, 0, s.toList⟩
    let kw (ty s : String) : Item := ⟨false, ty, 0, 0, 0, 0, s.toList⟩
    let semi := kw "Semicolon" ";"
    (MX.Stl.cons (.caseElse (kw "Case" "CASE") (kw "Of" "OF") (.leaf (id "a"))
        (.cons (kw "Digits" "1") 1 [(kw "Comma" ",", kw "Digits" "2", 2)] (kw "Colon" ":")
            (.cons (.assign (id "x") (kw "Assignment" ":=") (.leaf (id "b"))) semi .nil)
          (.cons (kw "Digits" "3") 3 [] (kw "Colon" ":") (.cons (.exitS (kw "Exit" "EXIT")) semi .nil) .nil))
        (kw "Else" "ELSE") (.cons (.returnS (kw "Return" "RETURN")) semi .nil) (kw "EndCase" "END_CASE")) semi .nil).WF := by
  intro id kw semi
  exact ⟨⟨rfl, rfl, rfl, rfl, rfl, ⟨rfl, by decide, List.forall_mem_singleton.mpr ⟨rfl, rfl, by decide⟩, rfl, ⟨⟨rfl, rfl, rfl⟩, rfl, trivial⟩, rfl,
    ⟨rfl, by decide, List.forall_mem_nil _, rfl, ⟨rfl, rfl, trivial⟩, rfl, trivial⟩⟩, ⟨rfl, rfl, trivial⟩, rfl⟩, rfl, trivial⟩

/-- non-vacuity: `t(IN := a, PT := b);` meets `WF` -/
example :
    let id (s : String) : Item := ⟨false, "Identifier", 0, 0, 0, 0, s.toList⟩
    let kw (ty s : String) : Item := ⟨false, ty, 0, 0, 0, 0, s.toList⟩
    (MX.Stl.cons (.callS (id "t") (kw "LeftParen" "(") (id "IN") (kw "Assignment" ":=") (.leaf (id "a"))
        [(kw "Comma" ",", id "PT", kw "Assignment" ":=", .leaf (id "b"))] (kw "RightParen" ")")) (kw "Semicolon" ";") .nil).WF := by
  intro id kw
  exact ⟨⟨rfl, rfl, rfl, rfl, rfl, rfl, List.forall_mem_singleton.mpr ⟨rfl, rfl, rfl, rfl⟩⟩, rfl, trivial⟩

/-- **Round trip of whole libraries through the parser mirror**: programs without variable blocks, any number, any
statements of `MX.Stl`. -/
theorem mirror_library_roundtrip (ps : List MX.Prog) (h : ∀ p ∈ ps, p.WF) :
    Parse.library (ps.flatMap MX.Prog.toks) =
      some (.n "Library" [("elements", .l (ps.map fun p => Sx.t "ProgramDeclaration" [p.sx]))]) := by
  have := MX.library_reads_pous (ps.map fun p => .prog (.plain p)) (List.forall_mem_map.mpr h)
  rwa [List.flatMap_map, List.map_map] at this

/-- The same for libraries whose programs may declare variables: `PROGRAM name VAR n1 : T1; … END_VAR statements
END_PROGRAM` (one VAR block of variables of elementary type without initial values; `T` any token that
`elementary_type_name` reads, INT and BOOL are shown to qualify): every variable comes back in order with its name,
class `Var`, no qualifier and its type. -/
theorem mirror_library_roundtrip_vars (ps : List MX.AnyProg) (h : ∀ p ∈ ps, p.WF) :
    Parse.library (ps.flatMap MX.AnyProg.toks) =
      some (.n "Library" [("elements", .l (ps.map fun p => Sx.t "ProgramDeclaration" [p.sx]))]) := by
  have := MX.library_reads_pous (ps.map .prog) (List.forall_mem_map.mpr h)
  rwa [List.flatMap_map, List.map_map] at this

/-- … and for libraries that mix programs, function blocks (`FUNCTION_BLOCK name [VAR … END_VAR] statements
END_FUNCTION_BLOCK`) and functions (`FUNCTION name : T statements END_FUNCTION`) in any order and number: `Parse.library` returns the declarations in source order, each of its
kind, nothing dropped, duplicated or reordered. -/
theorem mirror_library_roundtrip_pous (ps : List MX.Pou) (h : ∀ p ∈ ps, p.WF) :
    Parse.library (ps.flatMap MX.Pou.toks) = some (.n "Library" [("elements", .l (ps.map MX.Pou.elem))]) :=
  MX.library_reads_pous ps h

/-- non-vacuity: `n : INT;` meets `VarD.WF` -/
example : (MX.VarD.mk ⟨false, "Identifier", 0, 0, 0, 0, ['n']⟩ ⟨false, "Colon", 0, 0, 0, 0, [':']⟩
    ⟨false, "Int", 0, 0, 0, 0, "INT".toList⟩ "INT" ⟨false, "Semicolon", 0, 0, 0, 0, [';']⟩).WF := by
  refine ⟨rfl, rfl, rfl, MX.elementary_int _ rfl, ?_⟩
  simp [MX.isTrivia_eq_false]

/-- non-vacuity: `PROGRAM main x := c; END_PROGRAM` meets `Prog.WF` -/
example : (MX.Prog.mk ⟨false, "Program", 0, 0, 0, 0, "PROGRAM".toList⟩ ⟨false, "Identifier", 0, 0, 0, 0, "main".toList⟩
    (.cons (.assign ⟨false, "Identifier", 0, 0, 0, 0, ['x']⟩ ⟨false, "Assignment", 0, 0, 0, 0, [':', '=']⟩
              (.leaf ⟨false, "Identifier", 0, 0, 0, 0, ['c']⟩)) ⟨false, "Semicolon", 0, 0, 0, 0, [';']⟩ .nil)
    ⟨false, "EndProgram", 0, 0, 0, 0, "END_PROGRAM".toList⟩).WF :=
  ⟨rfl, rfl, rfl, ⟨⟨rfl, rfl, rfl⟩, rfl, trivial⟩, rfl⟩

/-- non-vacuity: `FUNCTION f : INT f := c; END_FUNCTION` meets `Fn.WF` -/
example : (MX.Fn.mk ⟨false, "Function", 0, 0, 0, 0, "FUNCTION".toList⟩ ⟨false, "Identifier", 0, 0, 0, 0, ['f']⟩
    ⟨false, "Colon", 0, 0, 0, 0, [':']⟩ ⟨false, "Int", 0, 0, 0, 0, "INT".toList⟩ "INT"
    (.cons (.assign ⟨false, "Identifier", 0, 0, 0, 0, ['f']⟩ ⟨false, "Assignment", 0, 0, 0, 0, [':', '=']⟩
              (.leaf ⟨false, "Identifier", 0, 0, 0, 0, ['c']⟩)) ⟨false, "Semicolon", 0, 0, 0, 0, [';']⟩ .nil)
    ⟨false, "EndFunction", 0, 0, 0, 0, "END_FUNCTION".toList⟩).WF :=
  ⟨rfl, rfl, rfl, rfl, MX.elementary_int _ rfl, MX.isTrivia_eq_false (by simp), ⟨⟨rfl, rfl, rfl⟩, rfl, trivial⟩, rfl⟩

/-! ### non-vacuity: concrete trees over the generated table's levels
(`+`,`-` at level 5 and `*` at level 6).  The executable mirror itself is evaluated by the compiled
driver in the correspondence check — kernel evaluation of a backtracking PEG parser does not share work. -/

def plus : Climb.Op := ⟨0, 5⟩
def minus : Climb.Op := ⟨1, 5⟩
def times : Climb.Op := ⟨2, 6⟩

/-- `a - b - c * d` keeps its left association and `*` binds tighter -/
example : Climb.parseE 50 0 (Climb.pr 0 (.bin minus (.bin minus (.leaf 1) (.leaf 2)) (.bin times (.leaf 3) (.leaf 4)))) =
    .ok (.bin minus (.bin minus (.leaf 1) (.leaf 2)) (.bin times (.leaf 3) (.leaf 4))) [] := by decide

/-- `a - (b - c)` needs, and gets, its parentheses -/
example : Climb.pr 0 (.bin minus (.leaf 1) (.bin minus (.leaf 2) (.leaf 3))) =
    [.atom 1, .op minus, .lp, .atom 2, .op minus, .atom 3, .rp] := by decide

end C01

import PlcModel.Total
import PlcProofs.Props.C09

/-!
# C04 — total and terminating

C04 is a statement about the *runtime* of the Rust code (panics, aborts, stack depth, time): a Lean
model is total by construction and cannot exhibit those, so the theorems here cover the decision
logic behind the mechanisms the property is anchored in, and the check ties the rest to the code by
running it (see DESIGN.md, C04: "partial").

* `subrange_compare_is_integer_order` — the bound comparison that replaced the panicking
  `try_into().expect("Value in range i128")` decides the order of the denoted integers for *all*
  magnitudes (no range restriction), so no bound the parser can produce is outside its domain.
* the literal reader rejects instead of overflowing (`literal_integer_total`: the C09 range theorem restated
  as what C04 needs: every digit string gets an answer, values beyond the representable range get
  `none`, never a wrapped value).
-/

namespace C04
open Total

theorem subrange_compare_is_integer_order (an : Bool) (a : Nat) (bn : Bool) (b : Nat) :
    isLessThan an a bn b = true ↔ value an a < value bn b := by
  unfold isLessThan value
  -- by sign; the magnitude test `!= 0` decides the arm, the rest is linear arithmetic
  cases an <;> cases bn <;> simp <;> split <;> simp_all <;> omega

/-- non-vacuity at the magnitudes that used to panic: 0 .. 2^128-1 and -(2^128-1) .. 2^127 -/
example : isLessThan false 0 false (2 ^ 128 - 1) = true := by decide
example : isLessThan true (2 ^ 128 - 1) false (2 ^ 127) = true := by decide
example : isLessThan false (2 ^ 128 - 1) true 1 = false := by decide

/-- an unsigned decimal literal is read to its value when that fits 128 bits and rejected otherwise:
the reader is total and never wraps -/
theorem literal_integer_total (cs : List Char) :
    (∃ v, Parse.integerNew cs = some v ∧ v < 2 ^ 128) ∨ Parse.integerNew cs = none := by
  cases h : Parse.integerNew cs with
  | none => exact Or.inr rfl
  | some v => exact Or.inl ⟨v, rfl, C09.integerNew_range cs v h⟩

end C04

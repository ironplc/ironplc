import PlcModel.Cli
import PlcProofs.Props.C03  -- `cliCheck` runs `semantic`, the pipeline of C02 / C03 with its stage table (`Gen/Stages`)

/-!
# C13 — command-line contract: exit status, OK line and diagnostics always agree

Model: `PlcModel/Cli.lean`.  The mapping of `Result<(), String>` to the process exit status
and the bytes actually written to stdout/stderr are Rust runtime behaviour, observed through the
binary by the correspondence check (exit status, `OK` line, `error[Pnnnn]` lines).
-/

namespace C13

theorem createProject_error {ps : List PathArg} {g : Groups} (h : createProject ps = .error g) : g ≠ [] := by
  unfold createProject at h
  simp only at h
  split at h
  · cases h; simp_all
  · split at h
    · cases h; simp_all
    · cases h

/-- `check` exits 0 exactly when it prints OK, exactly when it emits no diagnostic. -/
theorem check_exit0_iff_ok_iff_no_diag (ps : List PathArg) :
    ((cliCheck ps).exit = 0 ↔ (cliCheck ps).ok = true) ∧
    ((cliCheck ps).exit = 0 ↔ (cliCheck ps).coded = []) := by
  unfold cliCheck
  cases h : createProject ps with
  | error g => simp [createProject_error h]
  | ok files => cases hg : semantic (files.map (·.unit)) <;> simp [hg]

/-- When `check` does not exit 0 it does not print OK and at least one coded diagnostic is emitted. -/
theorem check_nonzero_has_coded_diag (ps : List PathArg) (h : (cliCheck ps).exit ≠ 0) :
    (cliCheck ps).ok = false ∧ (cliCheck ps).coded ≠ [] :=
  have ⟨h1, h2⟩ := check_exit0_iff_ok_iff_no_diag ps
  ⟨Bool.eq_false_iff.mpr (h ∘ h1.mpr), h ∘ h2.mpr⟩

theorem enumerate_dir (es : List CFile) (rest : List PathArg) :
    enumerate (.dir es :: rest) = enumerate (es.map PathArg.file ++ rest) := by
  induction es with
  | nil => simp [enumerate]
  | cons e es ih =>
    simp only [enumerate, List.map_cons, List.cons_append] at ih ⊢
    rw [← ih]

/-- Checking a directory is checking the list of the files in it. -/
theorem dir_equals_file_list (es : List CFile) (rest : List PathArg) :
    cliCheck (.dir es :: rest) = cliCheck (es.map PathArg.file ++ rest) ∧
    cliEcho (.dir es :: rest) = cliEcho (es.map PathArg.file ++ rest) ∧
    cliTokenize (.dir es :: rest) = cliTokenize (es.map PathArg.file ++ rest) := by
  simp only [cliCheck, cliEcho, cliTokenize, createProject, enumerate_dir, and_self]

/-- `echo` and `tokenize` have one shape: status 0 exactly when the project is created and no file
fails the test `p`. -/
theorem exit0_iff_all (p : CFile → Bool) {bad good : CliOut} (hb : bad.exit ≠ 0) (hg : good.exit = 0)
    (r : Except Groups (List CFile)) :
    (match r with
      | .error g => (⟨1, false, g⟩ : CliOut)
      | .ok files => if files.any p then bad else good).exit = 0 ↔
    ∃ files, r = .ok files ∧ ∀ f ∈ files, p f = false := by
  cases r with
  | error g => simp
  | ok files =>
    simp only [Except.ok.injEq, exists_eq_left', ← Bool.not_eq_true, ← List.any_eq_false]
    cases files.any p <;> simp [hb, hg]

/-- `echo` exits 0 exactly when the project can be created and every file parses. -/
theorem echo_exit0_iff_all_parse (ps : List PathArg) :
    (cliEcho ps).exit = 0 ↔ ∃ files, createProject ps = .ok files ∧ ∀ f ∈ files, f.unit.parseError = false :=
  exit0_iff_all (·.unit.parseError) (by decide) rfl _

/-- `tokenize` exits 0 exactly when the project can be created and every file tokenizes. -/
theorem tokenize_exit0_iff_all_tokenize (ps : List PathArg) :
    (cliTokenize ps).exit = 0 ↔ ∃ files, createProject ps = .ok files ∧ ∀ f ∈ files, f.tokenizes = true :=
  (exit0_iff_all (!·.tokenizes) (by decide) rfl _).trans (by simp)

theorem enumerate_missing {ps : List PathArg} (h : PathArg.missing ∈ ps) : (enumerate ps).2 ≠ [] := by
  induction ps with
  | nil => cases h
  | cons p rest ih =>
    cases p with
    | missing => simp [enumerate]
    | _ => exact ih (by simpa using h)

/-- The order of the path arguments does not change whether `check` can create the project. -/
theorem missing_path_fails (ps : List PathArg) (h : PathArg.missing ∈ ps) : (cliCheck ps).exit = 1 := by
  simp [cliCheck, createProject, enumerate_missing h]

/-! ### non-vacuity -/

example : cliCheck [] = ⟨1, false, [[P0030]]⟩ := by decide
example : cliCheck [.file ⟨true, true, true, ⟨false, [.subrangeT 1 1 5]⟩⟩] = ⟨0, true, []⟩ := by decide
example : cliCheck [.dir [⟨true, true, true, ⟨false, [.subrangeT 1 5 5]⟩⟩], .missing] = ⟨1, false, [[P0023]]⟩ := by decide

end C13

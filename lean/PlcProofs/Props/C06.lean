import PlcProofs.Props.C02
import PlcProofs.Lemmas.Graph
import PlcProofs.Lemmas.PermLookup

/-!
# C06 — the result is independent of declaration order, file partition and file order

Model: `PlcModel/Analyze.lean`.  `ds ~ ds'` (`List.Perm`) is "the same declarations in another
order"; distributing declarations over files and ordering the files only permutes the merged
declaration list (`merge_perm`), so every statement about `~` covers partitions and file orders.

The pipeline is a chain of stages that either abort or let the next one run.  `analyze_same` walks down the
chain once: each stage takes the same branch in both orders, given that the earlier ones did not abort.  That
proviso matters for the stages that look declarations up by name (`find?`): they are order-independent only when
names are unique, which the duplicate stage has established by the time they run (`Lemmas/PermLookup.lean`).
-/

open PermLookup

namespace C06

/-- Merging files: any redistribution of the declarations over files, in any file order, that keeps
the same declarations yields a permutation of the merged list. -/
theorem merge_perm (files files' : List AFile) (h : files.Perm files') :
    (files.flatMap (·.decls)).Perm (files'.flatMap (·.decls)) :=
  List.Perm.flatMap_right _ h

/-- The parse-error stage does not depend on file order. -/
theorem parse_stage_perm (files files' : List AFile) (h : files.Perm files') :
    files.any (·.parseError) = files'.any (·.parseError) :=
  h.any_eq

/-- Which duplicate codes a unit gets does not depend on the order. -/
theorem duplicate_stage_perm (ds ds' : List ADecl) (h : ds.Perm ds') (c : Nat) :
    c ∈ dupCodes ds ↔ c ∈ dupCodes ds' := by
  rw [mem_dupCodes, mem_dupCodes]
  refine not_congr (h.pairwise_iff fun {a b} hab hba => hab ?_)
  rw [sameKey_comm, ← dupCode_congr hba.1]
  exact hba

/-- Whether a unit is rejected as recursive does not depend on the declaration order. -/
theorem recursive_stage_perm (ds ds' : List ADecl) (h : ds.Perm ds') : recursive ds = recursive ds' :=
  cyclicExec_congr
    (fun _ => by
      simp only [unitNodes, List.mem_eraseDups]
      exact ((h.map _).append ((h.flatMap_right _).map _)).mem_iff)
    (fun _ => ((h.flatMap_right _).map _).mem_iff)

/-- The rules whose test looks at one site only give the same verdict and the same code in every
declaration order: a permutation of the declarations only permutes the list of codes that `grp` is applied to. -/
theorem site_rules_perm (ds ds' : List ADecl) (h : ds.Perm ds') :
    (P0003 ∈ (ruleStruct ds).flatten ↔ P0003 ∈ (ruleStruct ds').flatten) ∧
    (P0004 ∈ (ruleSubrange ds).flatten ↔ P0004 ∈ (ruleSubrange ds').flatten) ∧
    (P0005 ∈ (ruleEnumUnique ds).flatten ↔ P0005 ∈ (ruleEnumUnique ds').flatten) ∧
    (P0011 ∈ (ruleTask ds).flatten ↔ P0011 ∈ (ruleTask ds').flatten) ∧
    (P0015 ∈ (ruleVarUse ds).flatten ↔ P0015 ∈ (ruleVarUse ds').flatten) ∧
    (P0018 ∈ (ruleExternalConst ds).flatten ↔ P0018 ∈ (ruleExternalConst ds').flatten) :=
  ⟨(SameCodes.grp (h.filterMap _)).2 _, (SameCodes.grp (h.filterMap _)).2 _, (SameCodes.grp (h.filterMap _)).2 _,
   (SameCodes.grp (h.flatMap_right _)).2 _, (SameCodes.grp (h.flatMap_right _)).2 _, (ruleExternalConst_same h).2 _⟩

/-- The analysis gives the same verdict and the same codes in every order of the declarations. -/
theorem analyze_same {ds ds' : List ADecl} (h : ds.Perm ds') : SameCodes (analyzeDecls ds) (analyzeDecls ds') := by
  have hdup := duplicate_stage_perm ds ds' h
  unfold analyzeDecls
  refine .ite (recursive_stage_perm ds ds' h) (fun _ => .refl _) fun _ => ?_
  refine .ite (by rw [Bool.eq_iff_iff]; simp only [Bool.not_eq_true', List.isEmpty_eq_false_iff, ne_eq, nil_iff_of_mem_iff hdup])
    (fun _ => .dupGroups hdup) fun hd => ?_
  have hd : dupCodes ds = [] := by simpa using hd
  refine .ite (aliasUnsupported_perm h hd) (fun _ => .refl _) fun _ => ?_
  refine .ite (exprUnsupported_perm h) (fun _ => .refl _) fun _ => ?_
  refine .ite (typeFbClash_perm h) (fun _ => .refl _) fun hc => ?_
  refine .ite (typeInitUnsupported_perm h hd hc) (fun _ => .refl _) fun _ => ?_
  refine .ite (congrArg not (unknownTypes_perm h hd hc).isEmpty_eq) (fun _ => .refl _) fun _ => ?_
  exact rules_same h hd hc

/-- Whether the analysis accepts a unit does not depend on the order of its declarations. -/
theorem verdict_perm (ds ds' : List ADecl) (h : ds.Perm ds') :
    (analyzeDecls ds = [] ↔ analyzeDecls ds' = []) :=
  (analyze_same h).1

/-- … and neither does the set of codes it may report. -/
theorem codes_perm (ds ds' : List ADecl) (h : ds.Perm ds') (c : Nat) :
    c ∈ (analyzeDecls ds).flatten ↔ c ∈ (analyzeDecls ds').flatten :=
  (analyze_same h).2 c

/-! ### non-vacuity -/

example : semantic [⟨false, [.fb 1 [⟨2, .var, false, .named 3, none⟩] []]⟩, ⟨false, [.fb 3 [⟨4, .var, false, .named 1, none⟩] []]⟩]
        = semantic [⟨false, [.fb 3 [⟨4, .var, false, .named 1, none⟩] [], .fb 1 [⟨2, .var, false, .named 3, none⟩] []]⟩] := by decide +kernel

end C06

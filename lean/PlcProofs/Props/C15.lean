import PlcProofs.Lemmas.LexEval
import PlcProofs.Lemmas.SemTok

/-!
# C15 — semantic tokens decode to exactly the highlighted lexemes of the document

Model: `PlcModel/SemTok.lean` (`LspProject::tokenize`, `to_relative_positions`) over M-Lex and
the generated legend table `Gen/Legend.lean`.
-/

namespace C15

/-- Decoding (LSP rule) inverts the encoding on every position-sorted token list. -/
theorem rel_roundtrip (pl pc : Nat) (ts : List AbsTok) (h : SortedFrom pl pc ts) :
    decodeRel pl pc (encodeRel pl pc ts) = ts := by
  induction ts generalizing pl pc with
  | nil => rfl
  | cons t ts ih =>
    obtain ⟨hle, _, _, hrest⟩ := h
    -- on the line of the previous token the column is sent as a difference, on a later line as it is
    rcases hle with hlt | ⟨rfl, hcol⟩
    · simp only [encodeRel, decodeRel, beq_iff_eq, Nat.sub_ne_zero_of_lt hlt, Nat.ne_of_gt hlt, if_false,
        Nat.add_sub_cancel' (Nat.le_of_lt hlt), ih _ _ hrest]
    · simp only [encodeRel, decodeRel, Nat.sub_self, beq_self_eq_true, if_true, Nat.add_zero,
        Nat.add_sub_cancel' hcol, ih _ _ hrest]

/-- The highlighted lexemes of any text come out strictly increasing and non-overlapping
(each starts at or after the position where the previous one ended), so the encoding is
invertible on them. -/
theorem highlight_sorted (s : List Char) : SortedFrom 0 0 (highlight (lexItems s)) :=
  let ⟨_, hc, _⟩ := lexWith_cuts choose s.length s 0 0 0
  hc.highlight_sorted (Le2.refl _ _)

/-- Synthetic semicolons never become semantic tokens (table fact: `Semicolon ↦ None`),
so the response is computed from the real lexemes only. -/
theorem synthetic_not_highlighted (items : List Item) : highlight (insertSemis items) = highlight items :=
  filterMap_insertSemisGo hl1 (fun it => by simp [hl1, show legendOf "Semicolon" = none by decide +kernel]) false items

/-- Main statement: for a document without lexical errors the response decodes, under the LSP
relative encoding, to exactly the highlighted lexemes: one entry per token that has a legend class,
carrying that token's line, column, byte length and legend index, in source order. -/
theorem semtok_decodes (doc : List Char) (h : (tokenizeProgram doc).any (·.err) = false) :
    ∃ d, semTokens doc = some d ∧
      decodeRel 0 0 d = highlight (lexItems (preprocess doc)) ∧
      SortedFrom 0 0 (highlight (lexItems (preprocess doc))) := by
  refine ⟨encodeRel 0 0 (highlight (tokenizeProgram doc)), ?_, ?_, highlight_sorted _⟩
  · simp [semTokens, h]
  · have e : highlight (tokenizeProgram doc) = highlight (lexItems (preprocess doc)) :=
      synthetic_not_highlighted _
    rw [e]
    exact rel_roundtrip 0 0 _ (highlight_sorted _)

/-- every decoded entry is one lexeme of the token stream, with that lexeme's position, length
and the legend entry of its token type -/
theorem highlighted_is_lexeme (s : List Char) (t : AbsTok) (h : t ∈ highlight (lexItems s)) :
    ∃ it ∈ lexItems s, it.err = false ∧ legendOf it.ty = some t.ty ∧
      t.line = it.line ∧ t.col = it.col ∧ t.len = utf8Len it.text := by
  obtain ⟨it, hit, hm⟩ := List.mem_filterMap.mp h
  exact ⟨it, hit, hl1_eq_some hm⟩

/-- A document containing text that is not a valid token yields null, never a partial list. -/
theorem null_on_lex_error (doc : List Char) (h : ∃ it ∈ tokenizeProgram doc, it.err = true) :
    semTokens doc = none := by
  obtain ⟨it, hit, he⟩ := h
  have : (tokenizeProgram doc).any (·.err) = true := List.any_eq_true.mpr ⟨it, hit, he⟩
  simp [semTokens, this]

/-- The legend entry of every token type matches the lexeme's class (over the generated tables
`Gen.legendMap`, `Gen.legend`, `Gen.table`). -/
theorem legend_sound : legendSoundB = true := by
  unfold legendSoundB admissible admissibleOf
  simp only [beq_eq_strKey, ← strChars_eq]
  decide +kernel

/-! ### non-vacuity -/

example : semTokens "PROGRAM p (* c *) VAR\n a : BOOL; END_VAR".toList =
    some [0,0,7,1,0, 0,8,1,0,0, 0,2,7,3,0, 0,8,3,1,0, 1,1,1,0,0, 0,4,4,1,0, 0,6,7,1,0] := by
  simp only [semTokens, tokenizeProgram, lexItems_eq_fast, ← strChars_eq]; decide +kernel

example : semTokens "x ? y".toList = none := by
  simp only [semTokens, tokenizeProgram, lexItems_eq_fast]; decide +kernel

end C15

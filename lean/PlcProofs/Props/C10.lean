import PlcProofs.Lemmas.RenderExpr
import PlcProofs.Props.C09
import PlcProofs.Lemmas.RenderWords
import PlcProofs.Lemmas.MirrorPrintLib

/-!
# C10 — re-rendering round-trips

What is proved (for trees of unbounded size and depth):

* `expression_roundtrip` — the expression printing of the renderer (every binary and comparison node
  in parentheses, a unary operator directly before its operand, the operand in parentheses exactly
  when it is a unary expression) is read back to the *same tree* by precedence climbing, for **every**
  assignment of precedences to operators and whatever minimum precedence it is read at.  This is the
  statement behind the anchor "binary and comparison expressions always parenthesised": the round
  trip of expressions does not depend on the precedence table at all.
* `mirror_reads_renderer_parenthesisation` — the same round trip for the **parser mirror itself** (the
  functions of `PlcModel/Parse/Expr.lean` that the check compares with `parse_program`, driven by the
  generated table): the renderer's parenthesisation of every expression tree over names, unary and binary
  operators is read back to exactly that tree, with the fuel the driver uses.
* `mirror_reads_printed_statements` — one level up: for every statement tree (`MX.A`: assignments, IF / ELSIF / ELSE, CASE with
  integer selector lists, FOR [BY], WHILE, REPEAT, invocations with named inputs, EXIT, RETURN, nested to any depth) the
  printing `MX.Al.pr` — keywords as the renderer spells them, every expression in the renderer's parenthesisation, one `;`
  after each statement, ELSE only before a non-empty branch — is read back by the parser mirror to exactly the dsl trees of
  the list.  The only hypotheses are about the leaves (names are identifier tokens, operators are rows of `Gen.prec`,
  selector literals are integers) and the bodies the grammar wants non-empty.
* `mirror_reads_printed_library` — and for whole libraries: any sequence of programs, function blocks (with or without a VAR
  block of elementary-typed variables) and functions (`MX.APou`), printed as the renderer prints declarations, is read back by
  `Parse.library` to exactly the library that was printed, the whole text consumed.
* `renderer_model_prints_full_parentheses` — the renderer model `Render.RE`, which the check compares
  lexeme by lexeme with `write_to_string` on every generated library, writes exactly that printing
  for the dsl tree of every expression over the operators of the generated precedence table.
* `unparenthesised_nested_unary_not_read_back` — the repaired defect as a theorem: without the
  parentheses around a unary operand the printing is *not* read back (`- - a` is a syntax error).
* `fixed_point_of_roundtrip` — the "consequently" of the property: if rendering then parsing gives
  the library back, rendering the re-parsed library gives the same text again.
* `duration_render_read`, `tod_fraction_read` — at the level of numbers, the reader of C09 applied to what the
  renderer writes for a duration / the fraction of a time of day gives the value back.
* `duration_split_exact` — the unit split the renderer writes for a duration loses nothing and the
  count before the unit fits the 64-bit whole part the parser reads.

* `renderer_words_are_keywords`, `renderer_operators_are_table_tokens`, `renderer_unary_operators`,
  `renderer_direct_literals_lex` — over **every string literal of renderer.rs** (`Gen.renderLits`, re-extracted from the
  source on every run): each word in capitals it writes is read by the lexer (`Gen.table`, from token.rs) as one
  reserved-word token or is a word the grammar matches by text (`Gen.textKw`, from parser.rs) — with the one
  exception of the recorded finding C10-task-interval (`INTERNAL`), named in the statement; for each row of the
  `precedence!` block the renderer has a match arm for that operator whose text lexes to exactly the row's token;
  `-` / `NOT` lex to the tokens the unary rule reads; everything passed to `write` / `write_ws` lexes without error.

What is *not* proved: the round trip through the full parser mirror and the full renderer model for
declarations and literals (`library_roundtrip`); there the tie is the oracle on the implementation
plus the two correspondences (parser mirror on rendered texts, renderer model on rendered lexemes).
-/

namespace C10
open FullParen

/-- Round trip of the renderer's expression printing, for every precedence assignment. -/
theorem expression_roundtrip (e : Expr) (minp : Nat) (rest : List Tok) (h : NoOp rest) :
    ∃ fuel, parseE fuel minp (prFull e ++ rest) = .ok e rest :=
  FullParen.roundtrip e minp rest h

/-- The parser mirror reads the renderer's parenthesisation (`MX.E.full`: every binary node in parentheses,
a unary operand in parentheses exactly when it is itself unary) of every tree back to the tree.
`rest` is what follows: no operator, `#`, `(`, `[`, `.` or layout. -/
theorem mirror_reads_renderer_parenthesisation (lp rp : Item) (hlp : lp.ty = "LeftParen") (hrp : rp.ty = "RightParen")
    (e : MX.E) (he : e.Ok) (rest : List Item)
    (hrest : ∀ t ts, rest = t :: ts → MX.okNext t.ty = true ∧ ∀ row ∈ Gen.prec, t.ty ≠ row.token) :
    Parse.expression (Parse.fuelFor ((MX.E.full lp rp e).toks ++ rest).length) ((MX.E.full lp rp e).toks ++ rest)
      = some (e.sx, rest) := by
  rw [← MX.E.full_sx lp rp e]
  exact MX.expression_roundtrip (MX.E.full_wf lp rp hlp hrp e he 0) hrest

/-- **Printed statements are read back** (statement nesting, renderer's spelling and parenthesisation). -/
theorem mirror_reads_printed_statements (l : MX.Al) (hl : l.Ok) (hne : l.isNil = false) (K : Item) (R : List Item)
    (hK : MX.isCloser K.ty = true) :
    Parse.statementList (Parse.fuelFor (l.pr.toks ++ K :: R).length) (l.pr.toks ++ K :: R) = some (l.sxs, K :: R) := by
  rw [← MX.Al.pr_sxs l]
  exact MX.statementList_roundtrip (MX.Al.pr_wf l hl) (MX.Al.pr_isNil hne) R hK

/-- non-vacuity: `IF a THEN x := b; ELSIF c THEN EXIT; END_IF; t(IN := a);` is `Ok`, and its printing starts `IF a THEN x :=` -/
example :
    let id (s : String) : Item := ⟨false, "Identifier", 0, 0, 0, 0, s.toList⟩
    let l : MX.Al := .cons (.ifA (.leaf (id "a")) (.cons (.assign (id "x") (.leaf (id "b"))) .nil)
        (.cons (.leaf (id "c")) (.cons .exitA .nil) .nil) .nil)
      (.cons (.callA (id "t") (id "IN") (.leaf (id "a")) []) .nil)
    l.Ok ∧ l.isNil = false ∧ (l.pr.toks.take 5).map (·.ty) = ["If", "Identifier", "Then", "Identifier", "Assignment"] := by
  intro id l
  exact ⟨⟨⟨rfl, ⟨⟨rfl, rfl⟩, trivial⟩, ⟨rfl, ⟨trivial, trivial⟩, rfl, trivial⟩, trivial⟩, ⟨rfl, rfl, rfl, List.forall_mem_nil _⟩, trivial⟩, rfl, by decide⟩

/-- **Printed libraries are read back** (declarations in order, names, variables, statement trees; whole input consumed). -/
theorem mirror_reads_printed_library (ps : List MX.APou) (h : ∀ p ∈ ps, p.Ok) :
    Parse.library ((ps.map MX.APou.pr).flatMap MX.Pou.toks) = some (.n "Library" [("elements", .l (ps.map MX.APou.elem))]) := by
  have hm : (ps.map MX.APou.pr).map MX.Pou.elem = ps.map MX.APou.elem := by
    rw [List.map_map]
    exact List.map_congr_left fun p _ => MX.APou.pr_elem p
  rw [MX.library_reads_pous (ps.map MX.APou.pr) (List.forall_mem_map.mpr fun p hp => MX.APou.pr_wf p (h p hp)), hm]

/-- non-vacuity: `FUNCTION f : INT f := c; END_FUNCTION` and `PROGRAM main VAR n : INT; END_VAR n := c; END_PROGRAM` are `Ok` -/
example :
    let id (s : String) : Item := ⟨false, "Identifier", 0, 0, 0, 0, s.toList⟩
    let int : Item := ⟨false, "Int", 0, 0, 0, 0, "INT".toList⟩
    (MX.APou.fn (id "f") int "INT" (.cons (.assign (id "f") (.leaf (id "c"))) .nil)).Ok ∧
    (MX.APou.prog (id "main") [⟨id "n", int, "INT"⟩] (.cons (.assign (id "n") (.leaf (id "c"))) .nil)).Ok := by
  intro id int
  refine ⟨⟨rfl, MX.elementary_int _ rfl, MX.isTrivia_eq_false (by simp [int]), ⟨⟨rfl, rfl⟩, trivial⟩, rfl⟩,
    ⟨rfl, List.forall_mem_singleton.mpr ⟨rfl, MX.elementary_int _ rfl, ?_⟩, ⟨⟨rfl, rfl⟩, trivial⟩, rfl⟩⟩
  simp [int, MX.isTrivia_eq_false]

/-- The renderer model writes the fully parenthesised printing (operators = rows of `Gen.prec`). -/
theorem renderer_model_prints_full_parentheses (e : Expr) (h : RenderExpr.OpsOk e) (k : Nat) :
    Render.RE (RenderExpr.depth e + 1 + k) (RenderExpr.embed e) = some (RenderExpr.text (prFull e)) :=
  RenderExpr.render_of_depth_lt _ e h (Nat.lt_add_right k (Nat.lt_succ_self _))

/-- every operator of the generated precedence table has a lexeme in the renderer model -/
theorem every_table_operator_is_written :
    ∀ i, i < Gen.prec.length → (RenderExpr.symOfRow (Gen.prec.getD i RenderExpr.defaultRow)).isSome = true := by
  decide

/-- non-vacuity of `OpsOk`: a tree over table rows 9 (`+`) and 11 (`*`) with nested unary operators -/
example : RenderExpr.OpsOk (.bin ⟨11, 6⟩ (.un 0 (.un 1 (.leaf 1))) (.bin ⟨9, 5⟩ (.leaf 2) (.leaf 3))) :=
  ⟨every_table_operator_is_written 11 (by decide), trivial, every_table_operator_is_written 9 (by decide), trivial, trivial⟩

/-- the printing *without* the parentheses around a unary operand (what the renderer wrote before
the repair) is not read back: `- - a` -/
theorem unparenthesised_nested_unary_not_read_back (fuel : Nat) (u v n : Nat) :
    parseE fuel 0 [.uop u, .uop v, .atom n] ≠ .ok (.un u (.un v (.leaf n))) [] := by
  match fuel with
  | 0 => simp [parseE]
  | 1 => simp [parseE, parseAtom]
  | 2 => simp [parseE, parseAtom, parsePrimary]
  | _ + 3 => simp [parseE, parseAtom, parsePrimary]

/-- "Consequently rendering is a fixed point": for any parser and renderer, if the rendered text of
every parsed library parses back to that library, then rendering the re-parsed library yields the
same text again. -/
theorem fixed_point_of_roundtrip {Text Lib : Type} (parse : Text → Option Lib) (render : Lib → Text)
    (round : ∀ s l, parse s = some l → parse (render l) = some l)
    (s : Text) (l : Lib) (h : parse s = some l) :
    ∃ l', parse (render l) = some l' ∧ render l' = render l :=
  ⟨l, round s l h, rfl⟩

/-- the duration split written by `visit_duration_literal` (model: `Render.durationText`):
`count` units and `sub` nanoseconds below the unit recompose the magnitude exactly, the fraction is
below one unit, and the count fits the 64-bit whole part in the millisecond branch -/
theorem duration_split_exact (mag : Nat) :
    let per := if mag / 1000000 > 2 ^ 64 - 1 then 1000000000 else 1000000
    (mag / per) * per + mag % per = mag ∧ mag % per < per ∧
    (¬ mag / 1000000 > 2 ^ 64 - 1 → mag / per ≤ 2 ^ 64 - 1) := by
  intro per
  refine ⟨Nat.div_add_mod' mag per, Nat.mod_lt _ ?_, fun h => ?_⟩
  · simp only [per]
    split <;> decide
  · rw [show per = 1000000 from if_neg h]
    exact Nat.not_lt.mp h

open Parse in
/-- What the renderer writes for a duration is read back to the same number of nanoseconds: with the
unit split of `Render.durationText` (`count` units and `sub` nanoseconds below the unit, the latter
written as the fraction `sub / per` with 6 resp. 9 digits), the reader `durationOfUnits` on
`count + sub/per` gives `mag` again — for both units the renderer uses. -/
theorem duration_render_read (mag per scale : Nat) (hper : (per = 1000000 ∧ scale = 1000000000) ∨ (per = 1000000000 ∧ scale = 1000000))
    (hr : mag / 1000000000 < 2 ^ 63) :
    durationOfUnits ⟨mag / per, (mag % per) * scale⟩ per = some mag :=
  C09.durationOfUnits_split mag (by rcases hper with ⟨rfl, rfl⟩ | ⟨rfl, rfl⟩ <;> rfl) hr

/-- the fraction of a second written for a time of day (`nano` nanoseconds as nine fraction digits, trailing zeros
dropped) is a whole number of nanoseconds for the reader and is read back as `nano` -/
theorem tod_fraction_read (nano : Nat) : (nano * 1000000) % 1000000 = 0 ∧ (nano * 1000000) / 1000000 = nano :=
  ⟨Nat.mul_mod_left _ _, Nat.mul_div_cancel _ (by decide)⟩

/-! ### the renderer's vocabulary (generated tables) -/

open RenderWords in
/-- Every word in capitals that renderer.rs can write is a word the front end knows: one reserved-word token of the
lexer, or a word the grammar matches by its text.  The exception named in the statement is the recorded finding
C10-task-interval (the renderer writes `INTERNAL` for `INTERVAL`); no other literal is excused. -/
theorem renderer_words_are_keywords (l : String × String × String) (hl : l ∈ Gen.renderLits) (hk : kwShaped l.2.2 = true) :
    reservedWord l.2.2 = true ∨ textKeyword l.2.2 = true ∨ l.2.2 = "INTERNAL" := by
  simpa [hk, or_assoc] using List.all_eq_true.mp tables_ok.1 l hl

open RenderWords in
/-- For every operator row of the `precedence!` block the renderer has a match arm for exactly that operator
(`CompareOp::X` / `Operator::X`) whose text the lexer reads as one token of the row's type: what is written for an
operator is read back as that operator. -/
theorem renderer_operators_are_table_tokens (row : Gen.PrecRow) (hr : row ∈ Gen.prec) :
    ∃ l ∈ Gen.renderLits, l.1 = "arm" ∧ l.2.1 = row.opEnum ++ "::" ++ row.op ∧ lexesAs l.2.2 row.token = true :=
  of_armLexesAs (List.all_eq_true.mp tables_ok.2.2.1 row hr)

open RenderWords in
/-- `-` and `NOT`, the texts of the arms for the unary operators, lex to the tokens the unary rule reads -/
theorem renderer_unary_operators :
    (∃ l ∈ Gen.renderLits, l.1 = "arm" ∧ l.2.1 = "UnaryOp::Neg" ∧ lexesAs l.2.2 "Minus" = true) ∧
    (∃ l ∈ Gen.renderLits, l.1 = "arm" ∧ l.2.1 = "UnaryOp::Not" ∧ lexesAs l.2.2 "Not" = true) :=
  ⟨of_armLexesAs tables_ok.2.2.2.1, of_armLexesAs tables_ok.2.2.2.2⟩

open RenderWords in
/-- Everything renderer.rs passes to `write` / `write_ws` as a literal is text the lexer reads without a lexical error. -/
theorem renderer_direct_literals_lex (l : String × String × String) (hl : l ∈ Gen.renderLits) (hd : l.1 ≠ "arm") :
    (lexItems l.2.2.toList).isEmpty = false ∧ ∀ i ∈ lexItems l.2.2.toList, i.err = false := by
  simpa [hd] using List.all_eq_true.mp tables_ok.2.1 l hl

/-- non-vacuity: `END_IF` and the operator `<=` are in the table with the shapes the theorems speak of -/
example : ("write_ws", "", "END_IF") ∈ Gen.renderLits ∧ RenderWords.kwShaped "END_IF" = true ∧
    ("arm", "CompareOp::LtEq", "<=") ∈ Gen.renderLits := by decide +kernel

end C10

import PlcProofs.Lemmas.Lsp

/-!
# C12 — the language server answers every request once and survives any message sequence

Model: `PlcModel/Lsp.lean` (`LspServer::run`, `handle_request`, `handle_notification`,
lsp-server's `handle_shutdown`).  A session is `body ++ [shutdown sid, exit]` where `body` is any
list of the message kinds of the property (none of them shutdown/exit).
The model is a total function: there is no crashing branch (the three places where the code used
to panic or fall silent — client responses, empty change lists, unimplemented request methods —
are ordinary branches of `step`; the correspondence check holds the code to that).
-/

namespace C12

/-- Every request — and nothing else — is answered exactly once, in order, with its own id:
the list of ids carried by the responses is the list of request ids followed by the shutdown id. -/
theorem requests_answered_once (body : List Msg) (hb : ∀ m ∈ body, isCtl m = false) (sid : Nat) :
    replyIds (run (body ++ [.shutdown sid, .exit])).outs = reqIds body ++ [sid] := by
  rw [run_session body hb, replyIds_append, replyIds_stepAll body hb]
  rfl

/-- Notifications and client responses are never answered: a history without requests gets no
response other than the shutdown reply. -/
theorem notifications_never_answered (body : List Msg) (hb : ∀ m ∈ body, isCtl m = false)
    (hn : reqIds body = []) (sid : Nat) :
    replyIds (run (body ++ [.shutdown sid, .exit])).outs = [sid] := by
  rw [requests_answered_once body hb, hn]; rfl

/-- A request for a method the server does not implement is answered with the MethodNotFound error. -/
theorem unimplemented_gets_error (st : Store) (id : Nat) (m : String) :
    (step st (.unknownReq id m)).2 = [.error id methodNotFound] := rfl

/-- After shutdown followed by exit the server terminates with status 0, whatever came before. -/
theorem clean_exit (body : List Msg) (hb : ∀ m ∈ body, isCtl m = false) (sid : Nat) :
    (run (body ++ [.shutdown sid, .exit])).phase = .exited 0 := by
  rw [run_session body hb]

/-- The server loop is total: every history ends in a defined exit state (no crash state exists). -/
theorem survives (h : List Msg) : ∃ c, (run h).phase = .exited c :=
  runFrom_exits h [] []

/-! ### non-vacuity -/

example : (run [.response 3, .didChange (.file 0) 1 [], .unknownReq 7 "textDocument/hover",
      .unknownNotif "$/setTrace", .semTok 8 (.other 0), .shutdown 9, .exit]).outs =
    [.publish (.file 0) 1 [], .error 7 methodNotFound, .tokens 8 none, .shutdownReply 9] := by decide

end C12

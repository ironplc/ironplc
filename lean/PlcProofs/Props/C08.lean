import PlcProofs.Lemmas.Case
import PlcProofs.Lemmas.LexEval
import PlcModel.Gen.TextKw
import PlcModel.Peg

/-!
# C08 — letter case never changes how a text is cut into tokens

Over the token table regenerated from `token.rs` on every run: every token pattern (all 140
`#[token]` / `#[regex]` entries, after `ignore(case)` expansion) treats the two cases of every ASCII
letter alike; therefore changing the case of *any* letters anywhere in a text changes neither the
type, nor the span, nor the line/column of any token or lexical error — only token texts differ in
case.  (Keywords are then the same tokens; identifiers compare by their lower-cased spelling in the
dsl; the textual keywords of the parser compare with `eq_ignore_ascii_case`.)
Layout / comments / the optional END_IF semicolon are exercised by the correspondence check on the
parser mirror (no theorem here).
-/

namespace C08

/-- every pattern of the generated token table is closed under ASCII case -/
theorem all_patterns_case_closed : Gen.table.all (fun e => e.re.closed) = true := by decide +kernel

/-- the longest-match decision is the same for a text and any re-spelling of it -/
theorem lexOne_respell (s : List Char) (mask : List Bool) : lexOne (respell mask s) = lexOne s :=
  lexOneIn_congr fun e he => longest_respell e.re (List.all_eq_true.mp all_patterns_case_closed e he) s mask

/-- What the lexer decides at the head of a text (token type and length, or an error and its
extent) does not depend on letter case. -/
theorem choose_respell (s : List Char) (mask : List Bool) : choose (respell mask s) = choose s := by
  unfold choose
  rw [lexOne_respell, isOpener_respell, respell_length]

/-- what a token or error is, apart from the letter case of its text -/
def key (it : Item) : Bool × String × Nat × Nat × Nat × Nat := (it.err, it.ty, it.start, it.stop, it.line, it.col)

/-- Main statement: re-spelling a text — changing the case of any of its letters — changes no
token type, span, line or column and no lexical error; for every text and every choice of letters. -/
theorem lex_case_invariant (mask : List Bool) : ∀ fuel (s : List Char) (off l c : Nat),
    (lexWith choose fuel (respell mask s) off l c).map key = (lexWith choose fuel s off l c).map key := by
  intro fuel
  induction fuel generalizing mask with
  | zero => intro s off l c; simp [lexWith]
  | succ fuel ih =>
    intro s off l c
    fun_cases respell mask s with
    | case1 b bs x xs =>
      rw [lexWith_succ_cons, lexWith_succ_cons, ← respell_cons]
      simp only [choose_respell, respell_length, respell_take, respell_drop, utf8Len_respell, advancePos_respell,
        List.map_cons, key, ih]
    | case2 => rfl

theorem lexItems_case_invariant (mask : List Bool) (s : List Char) :
    (lexItems (respell mask s)).map key = (lexItems s).map key := by
  unfold lexItems
  rw [respell_length]
  exact lex_case_invariant mask _ s 0 0 0

/-! ### non-vacuity -/

example : respell [true, true, false, true] "End_if".toList = "eNd_if".toList := by decide +kernel
example : (lexItems "eNd_If x".toList).map key = (lexItems "END_IF x".toList).map key := by
  rw [lexItems_eq_fast, lexItems_eq_fast]; decide +kernel

/-! ### keywords that the grammar recognises by their text (`Gen/TextKw.lean`, re-extracted from parser.rs on every run) -/

/-- Every grammar rule that recognises a token by its text (`tok_eq`, `id_eq`, `dt_sep`: INTERVAL, PRIORITY, the
action qualifiers, the duration units, `T#` / `D#`, the exponent `E`, …) compares it with `eq_ignore_ascii_case`. -/
theorem text_rules_ignore_case : Gen.textMatchRules.all (·.2) = true := by decide

/-- every literal of the grammar that is matched by text goes through one of those rules -/
theorem text_literals_covered : Gen.textKw.all (fun l => Gen.textMatchRules.any (·.1 == l.1)) = true := by decide +kernel

/-- The mirror's text match (`P.tokEq`, the model of those rules) depends on the token text only through its
lower-cased form: re-spelling the letters of a token never changes whether a textual keyword matches it. -/
theorem tokEq_case_invariant (ty val : String) (t t' : Item) (ts : List Item) (hty : t'.ty = t.ty)
    (htx : t'.text.map P.asciiLower = t.text.map P.asciiLower) :
    (P.tokEq ty val (t' :: ts)).isSome = (P.tokEq ty val (t :: ts)).isSome := by
  simp only [P.tokEq, P.eqIgnoreAsciiCase, hty, htx]
  by_cases h : (t.ty == ty && List.map P.asciiLower t.text == List.map P.asciiLower val.toList) = true <;> simp [h]

/-- non-vacuity: `interval` and `INTERVAL` are the same textual keyword -/
example : (P.tokEq "Identifier" "INTERVAL" [⟨false, "Identifier", 0, 0, 0, 0, "interval".toList⟩]).isSome = true := by decide +kernel

end C08

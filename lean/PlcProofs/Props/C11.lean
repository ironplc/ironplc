import PlcProofs.Lemmas.Lsp

/-!
# C11 — LSP diagnostics depend only on current document contents

Model: `PlcModel/Lsp.lean`.  A `publish u ver snapshot` output stands for the
publishDiagnostics notification whose diagnostics are `filter u (semantic snapshot)`: a function of
the document store snapshot and the uri, so equal snapshots mean equal diagnostics.
The equality with `ironplcc check` (same `semantic` function on the same file contents) is
established by the correspondence check on the implementation, not in Lean.
-/

namespace C11

/-- Every didOpen / didChange is answered by exactly one publishDiagnostics for that document,
carrying the notification's version, in order; nothing else is published. -/
theorem one_publish_per_edit (body : List Msg) (hb : ∀ m ∈ body, isCtl m = false) (sid : Nat) :
    publishes (run (body ++ [.shutdown sid, .exit])).outs = edits body := by
  rw [run_session body hb, publishes_append, publishes_stepAll]
  exact List.append_nil _

/-- The store after any history holds, for every file, the last text written to it. -/
theorem store_is_last_write (body : List Msg) (k : Nat) :
    getDoc (stepAll [] body).1 k = lastWrite k body none :=
  getDoc_stepAll k body []

/-- History independence: two histories that leave every file with the same last-written text
leave the server in the *same* store, hence any further message produces the same outputs
(same publishDiagnostics content, same semantic tokens). -/
theorem history_independence (h1 h2 : List Msg)
    (hsame : ∀ k, lastWrite k h1 none = lastWrite k h2 none) (m : Msg) :
    (stepAll [] h1).1 = (stepAll [] h2).1 ∧
    (step (stepAll [] h1).1 m).2 = (step (stepAll [] h2).1 m).2 := by
  have e : (stepAll [] h1).1 = (stepAll [] h2).1 :=
    store_ext (strictSorted_stepAll h1 .nil) (strictSorted_stepAll h2 .nil) fun k => by
      rw [store_is_last_write, store_is_last_write, hsame]
  exact ⟨e, by rw [e]⟩

/-- The snapshot a publish is computed from is the store *after* applying the edit
(a stale cache would publish the previous snapshot). -/
theorem publish_uses_new_contents (st : Store) (k : Nat) (v : Int) (t : List Char) :
    (step st (.didOpen (.file k) v t)).2 = [.publish (.file k) v (setDoc st k t)] ∧
    getDoc (setDoc st k t) k = some t := by
  refine ⟨rfl, ?_⟩
  rw [getDoc_setDoc]; simp

/-- In particular: opening the documents of the current store in a fresh server, the edited
document last, reproduces the snapshot — the comparison the property prescribes. -/
theorem fresh_server_equiv (h : List Msg) (canon : List Msg)
    (hc : ∀ k, lastWrite k canon none = lastWrite k h none) :
    (stepAll [] canon).1 = (stepAll [] h).1 :=
  (history_independence canon h hc .exit).1

/-! ### non-vacuity -/

example : (stepAll [] [.didOpen (.file 1) 1 ['a'], .didOpen (.file 0) 1 ['b'], .didChange (.file 1) 2 [['x'], ['c']],
      .didChange (.file 0) 3 [], .didOpen (.other 0) 1 ['z']]).1 = [(0, ['b']), (1, ['c'])] := by decide

example : (stepAll [] [.didOpen (.file 0) 7 ['b'], .didOpen (.file 1) 9 ['c']]).1 = [(0, ['b']), (1, ['c'])] := by decide

end C11

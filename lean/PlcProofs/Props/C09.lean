import PlcModel.Parse.Lit

/-!
# C09 — literals are read as the value IEC 61131-3 assigns them, or rejected

Theorems about M-Literal (`PlcModel/Parse/Lit.lean`): the integer readers compute the positional
value of the digits (any base, underscores ignored) and reject exactly the values that do not fit
128 bits; a duration is the *exact* number of nanoseconds of `amount × unit` or it is rejected
(never rounded, never wrapped); a time of day that is read has its fields in range, a date that is read is a calendar date.
The literal grammar around these functions is tied to the parser by the correspondence check on
the enumerated literal space (C09 check), with an independent exact oracle on the implementation.
-/

namespace C09
open Parse

/-- positional value of a digit sequence: `value (ds ++ [d]) = value ds * base + d` -/
def positional (base : Nat) : List Nat → Nat
  | [] => 0
  | d :: ds => d * base ^ ds.length + positional base ds

theorem foldl_positional (base : Nat) (ds : List Nat) (acc : Nat) :
    ds.foldl (fun a d => a * base + d) acc = acc * base ^ ds.length + positional base ds := by
  induction ds generalizing acc with
  | nil => simp [positional]
  | cons d ds ih =>
    simp only [List.foldl_cons, ih, positional, List.length_cons, Nat.pow_succ]
    rw [Nat.add_mul, Nat.mul_assoc, Nat.mul_comm base, Nat.add_assoc]

/-- the fold of `natOfDigits`, as a function of the accumulated result -/
theorem natOfDigits_go (base : Nat) (cs : List Char) (acc : Option Nat) :
    cs.foldl (digitStep base) acc =
    match acc, cs.mapM (digitOf base) with
    | some a, some ds => some (ds.foldl (fun a d => a * base + d) a)
    | _, _ => none := by
  induction cs generalizing acc with
  | nil => cases acc <;> simp
  | cons c cs ih =>
    simp only [List.foldl_cons, ih, List.mapM_cons]
    cases acc with
    | none => simp [digitStep]
    | some a =>
      cases hd : digitOf base c with
      | none => simp [digitStep, hd]
      | some d =>
        simp only [digitStep, hd, Option.pure_def, Option.bind_eq_bind, Option.bind_some]
        cases cs.mapM (digitOf base) <;> simp

/-- **Integers.** The reader returns the positional value of the digits of a non-empty text, and
nothing when a character is not a digit of the base. -/
theorem natOfDigits_eq (base : Nat) (cs : List Char) :
    natOfDigits base cs = if cs.isEmpty then none else (cs.mapM (digitOf base)).map (positional base) := by
  unfold natOfDigits
  split
  · rfl
  · rw [natOfDigits_go]
    cases cs.mapM (digitOf base) <;> simp [foldl_positional]

theorem natOfDigits_value (base : Nat) (cs : List Char) (ds : List Nat) (hne : cs ≠ [])
    (hds : cs.mapM (digitOf base) = some ds) :
    natOfDigits base cs = some (positional base ds) := by
  rw [natOfDigits_eq, hds, if_neg (by simpa using hne)]
  rfl

theorem natOfDigits_reject (base : Nat) (cs : List Char) (hds : cs.mapM (digitOf base) = none) :
    natOfDigits base cs = none := by
  rw [natOfDigits_eq, hds]
  split <;> rfl

/-- the range guard of the integer readers -/
theorem lt_of_guard {o : Option Nat} {v : Nat}
    (h : (match o with | some v => if v < u128Max then some v else none | none => none) = some v) : v < 2 ^ 128 := by
  split at h
  · split at h
    · cases h; assumption
    · cases h
  · cases h

/-- The decimal reader accepts exactly the values below 2^128 — a larger literal is rejected, never wrapped. -/
theorem integerNew_range (text : List Char) (v : Nat) (h : integerNew text = some v) : v < 2 ^ 128 :=
  lt_of_guard h

theorem integerBased_range (base : Nat) (pre text : List Char) (v : Nat) (h : integerBased base pre text = some v) :
    v < 2 ^ 128 := by
  unfold integerBased at h
  split at h
  · cases h
  · exact lt_of_guard h

/-- **Durations.** `durationOfUnits` in one test: the amount is a whole number of nanoseconds whose
seconds fit 63 bits, and then that number is the answer. -/
theorem durationOfUnits_eq (v : FixedPt) (unit : Nat) :
    durationOfUnits v unit =
      if v.femptos * unit % femptoUnits = 0 ∧
          (v.whole * unit + v.femptos * unit / femptoUnits) / 1000000000 < 2 ^ 63 then
        some (v.whole * unit + v.femptos * unit / femptoUnits)
      else none := by
  unfold durationOfUnits i64Max
  by_cases hm : v.femptos * unit % femptoUnits = 0 <;> simp [hm]

/-- An accepted duration is the exact product `(whole + femptos/10^15) × unit` in nanoseconds, and its
whole seconds fit 63 bits. -/
theorem duration_exact (v : FixedPt) (unit ns : Nat) (h : durationOfUnits v unit = some ns) :
    ns * femptoUnits = (v.whole * femptoUnits + v.femptos) * unit ∧ ns / 1000000000 < 2 ^ 63 := by
  rw [durationOfUnits_eq] at h
  split at h <;> cases h
  rename_i hc
  refine ⟨?_, hc.2⟩
  rw [Nat.add_mul, Nat.add_mul, Nat.div_mul_cancel (Nat.dvd_of_mod_eq_zero hc.1), Nat.mul_right_comm]

/-- A duration that is not a whole number of nanoseconds is rejected (not truncated). -/
theorem duration_subnanosecond_rejected (v : FixedPt) (unit : Nat) (h : v.femptos * unit % femptoUnits ≠ 0) :
    durationOfUnits v unit = none := by
  rw [durationOfUnits_eq, if_neg fun c => h c.1]

/-- A duration whose seconds do not fit 63 bits is rejected (not wrapped). -/
theorem duration_overflow_rejected (v : FixedPt) (unit : Nat) (hex : v.femptos * unit % femptoUnits = 0)
    (h : 2 ^ 63 ≤ (v.whole * unit + v.femptos * unit / femptoUnits) / 1000000000) : durationOfUnits v unit = none := by
  rw [durationOfUnits_eq, if_neg fun c => Nat.not_lt.mpr h c.2]

/-- `mag` nanoseconds written as `mag / per` units and the fraction `(mag % per) / per` of a unit
(in femptos: `× scale`) are read back as `mag`, for any unit that divides 10^15 femptos. -/
theorem durationOfUnits_split (mag : Nat) {per scale : Nat} (hf : scale * per = femptoUnits)
    (hr : mag / 1000000000 < 2 ^ 63) : durationOfUnits ⟨mag / per, mag % per * scale⟩ per = some mag := by
  have hv : mag / per * per + mag % per * scale * per / femptoUnits = mag := by
    rw [Nat.mul_assoc, hf, Nat.mul_div_cancel _ (by decide), Nat.div_add_mod']
  rw [durationOfUnits_eq, if_pos ⟨by rw [Nat.mul_assoc, hf]; exact Nat.mul_mod_left _ _, hv.symm ▸ hr⟩, hv]

/-- The sum of the unit parts is exact, or rejected. -/
theorem duration_sum (a b s : Nat) (h : durPlus a b = some s) : s = a + b := by
  unfold durPlus at h
  split at h
  · cases h; rfl
  · cases h

/-! ### non-vacuity -/

example : natOfDigits 16 "FF".toList = some 255 := by decide
example : integerNew "1_000".toList = some 1000 := by decide
example : durationOfUnits ⟨1, 500000000000000⟩ nsDay = some 129600000000000 := by decide
example : durationOfUnits ⟨0, 100000⟩ nsSecond = none := by decide      -- 0.0000000001 s: sub-nanosecond
example : durationOfUnits ⟨99999999999999999999 % 2 ^ 64, 0⟩ nsDay = none := by decide

/-- a time of day that is read has fields in range: no `25:61:61` gets through -/
theorem tod_fields_in_range (ts rest : List Item) (t : Tod) (h : daytime ts = some (t, rest)) :
    t.h < 24 ∧ t.m < 60 ∧ t.s < 60 := by
  unfold daytime at h
  simp only [bind, StateT.bind, Option.bind_eq_some_iff] at h
  obtain ⟨a, _, b, _, c, _, d, _, e, _, h⟩ := h
  split at h
  · next hc => cases h; exact ⟨hc.2.2.2.2.1, hc.2.2.2.2.2.1, hc.2.2.2.2.2.2⟩
  · cases h

/-- a date that is read is a calendar date (month 1..12, day valid for the month incl. leap years, year ≤ 9999) -/
theorem date_is_calendar_date (ts rest : List Item) (d : Ymd) (h : dateLiteral ts = some (d, rest)) :
    1 ≤ d.m ∧ d.m ≤ 12 ∧ d.y ≤ 9999 ∧ 1 ≤ d.d ∧ d.d ≤ daysInMonth d.y d.m := by
  unfold dateLiteral at h
  simp only [bind, StateT.bind, Option.bind_eq_some_iff] at h
  obtain ⟨a, _, b, _, c, _, e, _, f, _, h⟩ := h
  split at h
  · next hc => cases h; exact hc
  · cases h

/-! ### underscores separate digits, they are not digits -/

theorem filter_underscore {p : Char → Bool} (hp : p '_' = false) (cs : List Char) :
    (cs.filter (· != '_')).filter p = cs.filter p := by
  rw [List.filter_filter]
  congr 1
  funext c
  by_cases h : c = '_'
  · subst h; simp [hp]
  · simp [h]

/-- A fixed point text (the amount of a duration, the seconds of a time of day) and the same text with
underscores inserted or removed anywhere — before or after the point — are read alike: an underscore never
shifts or scales a digit. -/
theorem fixedPoint_underscores_ignored (a b : List Char) (h : a.filter (· != '_') = b.filter (· != '_')) :
    Parse.fixedPointParse a = Parse.fixedPointParse b := by
  have key : ∀ x : List Char, Parse.fixedPointParse x = Parse.fixedPointParse (x.filter (· != '_')) := by
    intro x
    unfold Parse.fixedPointParse
    simp only
    rw [filter_underscore (by decide)]
  rw [key a, key b, h]

/-- the same for unsigned decimal integers -/
theorem integer_underscores_ignored (a b : List Char) (h : a.filter (· != '_') = b.filter (· != '_')) :
    Parse.integerNew a = Parse.integerNew b := by
  have key : ∀ x : List Char, Parse.integerNew x = Parse.integerNew (x.filter (· != '_')) := by
    intro x
    unfold Parse.integerNew
    rw [filter_underscore (by decide)]
  rw [key a, key b, h]

/-- in particular a single underscore, wherever it stands -/
theorem integerNew_underscore (a b : List Char) : integerNew (a ++ '_' :: b) = integerNew (a ++ b) :=
  integer_underscores_ignored _ _ (by simp)

/-- non-vacuity: `1.000_5` is read as `1.0005` -/
example : Parse.fixedPointParse "1.000_5".toList = Parse.fixedPointParse "1.0005".toList :=
  fixedPoint_underscores_ignored _ _ (by decide)

end C09

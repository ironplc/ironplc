import PlcProofs.Props.C02

/-!
# C03 — no error is masked: a defect anywhere in the compilation set makes check fail

Model: `PlcModel/Analyze.lean` (`semantic` = `FileBackedProject::semantic`, `analyzeDecls` =
`analyze` on the merged libraries).  `semantic files = []` is "the check succeeds".
-/

namespace C03

/-- A declaration that violates, on its own, a rule that does not depend on other declarations. -/
def LocalFault : ADecl → Prop
  | .structT _ es => ¬ (es.map (·.1)).Nodup
  | .subrangeT _ lo hi => ¬ lo < hi
  | .enumT _ vs _ => ¬ vs.Nodup
  | .config _ gs tasks progs =>
      (∃ p ∈ progs, ∃ t, p.task = some t ∧ t ∉ tasks) ∨
      (∃ v ∈ gs, v.const = true ∧ v.cls ≠ .external ∧ v.init = none)
  | d =>
      (d.isPou = true ∧ ∃ s ∈ d.body, ∃ r ∈ s.varRefs, r ≠ d.name ∧ ∀ v ∈ d.vars, v.name ≠ r) ∨
      (∃ v ∈ d.vars, v.const = true ∧ v.cls ≠ .external ∧ v.init = none)

/-- If any file of the set fails to tokenize or parse, checking the whole set fails — whatever the
other files contain (including when all of them are valid). -/
theorem parse_error_never_masked (files : List AFile) (h : ∃ f ∈ files, f.parseError = true) :
    semantic files ≠ [] := by
  obtain ⟨f, hf, hp⟩ := h
  intro e
  rw [((semantic_eq_nil_iff files).mp e).2.1 f hf] at hp
  cases hp

/-- Two declarations with the same name (in the same name-keyed map) are never silently collapsed
into one: the analysis fails. -/
theorem duplicate_never_collapsed (ds : List ADecl)
    (h : ¬ ds.Pairwise (fun d d' => sameKey d d' = false)) : analyzeDecls ds ≠ [] :=
  fun e => h ((dupCodes_eq_nil_iff ds).mp ((C02.analyze_ok_iff ds).mp e).2.1)

/-- … and, unless the unit is also recursive, what is reported is the duplicate (P0019 / P0020). -/
theorem duplicate_is_diagnosed (ds : List ADecl) (hrec : recursive ds = false)
    (h : ¬ ds.Pairwise (fun d d' => sameKey d d' = false)) :
    ∃ c ∈ (analyzeDecls ds).flatten, c = P0019 ∨ c = P0020 := by
  have hne : dupCodes ds ≠ [] := fun e => h ((dupCodes_eq_nil_iff ds).mp e)
  obtain ⟨c, hc⟩ := List.exists_mem_of_ne_nil _ hne
  rw [analyzeDecls_of_dup hrec hne]
  exact ⟨c, (mem_dupGroups _ c).mpr hc, dupCodes_sub hc⟩

/-- A declaration with a local fault makes the analysis fail, whatever declarations accompany it: the rule it
violates is not silent (`C02`), for a constant without initial value either with P0016 or with P9999. -/
theorem local_fault_never_masked (ds : List ADecl) (d : ADecl) (hd : d ∈ ds) (hf : LocalFault d) :
    analyzeDecls ds ≠ [] := by
  intro e
  obtain ⟨hS, hR, hE, _, hT, _, hV, _, hC, _, _⟩ :=
    (rules_eq_nil_iff ds).mp ((C02.analyze_ok_iff ds).mp e).2.2.2.2.2.2.2
  have silent : ∀ {g : Groups} {c : Nat}, g = [] → c ∈ g.flatten → False := by rintro _ _ rfl h; cases h
  have hconst : ∀ d ∈ ds, (∃ v ∈ d.vars, v.const = true ∧ v.cls ≠ .external ∧ v.init = none) → False :=
    fun d hd h => (Classical.em (C02.ConstOfUnjudgedType ds)).elim
      (fun hU => silent hC ((C02.const_init_rule ds).2.mpr hU))
      (fun hU => silent hC ((C02.const_init_rule ds).1.mpr ⟨hU, d, hd, h⟩))
  have hvar := fun h => silent hV ((C02.var_use_rule ds).mpr h)
  cases d with
  | structT n es => exact silent hS ((C02.struct_rule ds).mpr ⟨n, es, hd, hf⟩)
  | subrangeT n lo hi => exact silent hR ((C02.subrange_rule ds).mpr ⟨n, lo, hi, hd, hf⟩)
  | enumT n vs dflt => exact silent hE ((C02.enum_unique_rule ds).mpr ⟨n, vs, dflt, hd, hf⟩)
  | config n gs tasks progs =>
    rcases hf with ⟨p, hp, t, ht, hnt⟩ | h
    · exact silent hT ((C02.task_rule ds).mpr ⟨n, gs, tasks, progs, p, t, hd, hp, ht, hnt⟩)
    · exact hconst _ hd h
  | _ => exact hf.elim (fun h => hvar ⟨_, hd, h⟩) (hconst _ hd)

/-- The same at the level of the compilation set: a locally faulty declaration in any file makes
the check of the whole set fail, whatever other files and declarations accompany it. -/
theorem set_with_local_fault_fails (files : List AFile) (f : AFile) (hf : f ∈ files)
    (d : ADecl) (hd : d ∈ f.decls) (hfault : LocalFault d) : semantic files ≠ [] :=
  fun e => local_fault_never_masked _ d (List.mem_flatMap.mpr ⟨f, hf, hd⟩) hfault ((semantic_eq_nil_iff files).mp e).2.2

/-- Monotonicity: adding files to a set that fails because of a parse error or a local fault never
makes it pass. -/
theorem adding_files_never_cures (files extra : List AFile)
    (h : (∃ f ∈ files, f.parseError = true) ∨ (∃ f ∈ files, ∃ d ∈ f.decls, LocalFault d)) :
    semantic (files ++ extra) ≠ [] ∧ semantic (extra ++ files) ≠ [] := by
  rcases h with ⟨f, hf, hp⟩ | ⟨f, hf, d, hd, hfault⟩
  · exact ⟨parse_error_never_masked _ ⟨f, List.mem_append_left _ hf, hp⟩,
           parse_error_never_masked _ ⟨f, List.mem_append_right _ hf, hp⟩⟩
  · exact ⟨set_with_local_fault_fails _ f (List.mem_append_left _ hf) d hd hfault,
           set_with_local_fault_fails _ f (List.mem_append_right _ hf) d hd hfault⟩

/-! ### non-vacuity -/

example : LocalFault (.subrangeT 1 5 5) := by simp [LocalFault]
example : semantic [⟨false, [.prog 1 [] []]⟩, ⟨true, []⟩] = [[P0002, P0031]] := by decide +kernel
example : semantic [⟨false, [.prog 1 [⟨3, .var, false, .int, none⟩] [.assign 3 [4]]]⟩,
                    ⟨false, [.prog 1 [⟨3, .var, false, .int, none⟩] [.assign 3 []]]⟩] = [[P0020]] := by decide +kernel

end C03

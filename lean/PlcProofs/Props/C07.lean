import PlcProofs.Lemmas.Graph

/-!
# C07 — recursion is rejected exactly when the declaration graph has a cycle

Model: `PlcModel/Graph.lean` — the abstract compilation unit (function blocks with instance
variables, alias types, structure types), the graph `RuleGraphReferenceableElements` builds from it
and an executable cyclicity test standing for petgraph's `toposort` (which errs iff the graph has
a cycle: trusted, held by the correspondence on all digraphs up to 4 nodes).
-/

open Relation

namespace C07

/-- "`u` refers to `v`": function block `u` contains an instance of `v`, or type `u` is an alias of
`v` or has a structure element of type `v` -/
def Refers (ds : List Decl) (u v : Nat) : Prop := (u, v) ∈ specEdges ds

/-- The executable test is correct for every finite graph, of any size: it answers `true`
exactly when some node reaches itself through one or more edges. -/
theorem cyclic_iff_transGen (nodes : List Nat) (edges : Edges) :
    cyclicExec nodes edges = true ↔ ∃ v, TransGen (E nodes edges) v v :=
  cyclicExec_iff nodes edges

/-- Reversing every edge (the orientation the code uses: dependency → dependent) neither creates
nor removes cycles. -/
theorem reverse_preserves_cycles (nodes : List Nat) (edges : Edges) :
    (∃ v, TransGen (E nodes (edges.map fun e => (e.2, e.1))) v v) ↔ ∃ v, TransGen (E nodes edges) v v := by
  have hE : E nodes (edges.map fun e => (e.2, e.1)) = Function.swap (E nodes edges) := by
    funext u v
    apply propext
    simp only [E, Function.swap, List.mem_map, Prod.mk.injEq, Prod.exists]
    constructor
    · rintro ⟨⟨a, b, hm, rfl, rfl⟩, hu, hv⟩; exact ⟨hm, hv, hu⟩
    · rintro ⟨hm, hv, hu⟩; exact ⟨⟨v, u, hm, rfl, rfl⟩, hu, hv⟩
  rw [hE]
  exact exists_congr fun _ => transGen_swap

theorem E_spec (ds : List Decl) : E (graphNodes ds) (specEdges ds) = Refers ds := by
  funext u v
  refine propext ⟨fun h => h.1, fun h => ⟨h, ?_, ?_⟩⟩ <;>
    simp only [graphNodes, List.mem_eraseDups, List.mem_append, List.mem_map]
  · obtain ⟨d, hd, hr⟩ := List.mem_flatMap.mp h
    exact Or.inl ⟨d, hd, by cases d <;> simp_all [Decl.refs, Decl.name]⟩
  · exact Or.inr ⟨(u, v), h, rfl⟩

/-- Main statement: the unit is rejected as recursive exactly when some declaration transitively
refers to itself — for every unit, however many declarations, however deep or wide. -/
theorem rejects_iff_cycle (ds : List Decl) :
    rejectsRecursive ds = true ↔ ∃ v, TransGen (Refers ds) v v := by
  unfold rejectsRecursive builtEdges
  rw [cyclic_iff_transGen, reverse_preserves_cycles, E_spec]

/-- Units whose reference graph is acyclic are never reported as recursive. -/
theorem acyclic_never_rejected (ds : List Decl) (h : ∀ v, ¬ TransGen (Refers ds) v v) :
    rejectsRecursive ds = false := by
  rw [← Bool.not_eq_true, rejects_iff_cycle]
  exact fun ⟨v, hv⟩ => h v hv

/-! ### non-vacuity: the mixed alias/structure cycle, a self loop, a deep acyclic chain -/

example : rejectsRecursive [.alias 0 1, .struct 1 [0]] = true := by decide +kernel
example : rejectsRecursive [.fb 0 [0]] = true := by decide +kernel
example : rejectsRecursive [.fb 0 [1, 2], .fb 1 [2], .fb 2 [3], .fb 3 []] = false := by decide +kernel
example : rejectsRecursive [.fb 0 [1], .fb 1 [2], .fb 2 [0], .struct 5 [6]] = true := by decide +kernel

end C07

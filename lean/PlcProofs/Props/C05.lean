import PlcProofs.Lemmas.LexEval

/-!
# C05 — every reported position points at the text it is about (token clauses)

The lemmas about the lexing loop (`Cuts`) live in `PlcProofs/Lemmas/Lex.lean`.
All statements are about the model `PlcModel/Lex.lean` of `lexer.rs::tokenize`,
`preprocessor.rs` and `xform_tokens.rs`; they hold for *every* decision function `ch`
(token table, logos error-extent policy), every text and every length.
-/

namespace C05

/-- spans are contiguous and ordered: each item starts where the previous one stopped -/
def Contig : Nat → List Item → Nat → Prop
  | a, [], b => a = b
  | a, it :: rest, b => it.start = a ∧ a < it.stop ∧ Contig it.stop rest b

theorem contig_of_cuts {s r : List Char} {off l c : Nat} {items : List Item} (h : Cuts s off l c items r) :
    ∀ b, off + utf8Len s = b + utf8Len r → Contig off items b := by
  induction h with
  | nil => exact fun b hb => by simpa [Contig] using hb
  | cons hne hs he _ _ _ ih =>
    intro b hb
    rw [utf8Len_append, ← Nat.add_assoc, ← he] at hb
    exact ⟨hs, he ▸ Nat.lt_add_of_pos_right (utf8Len_pos hne), ih b hb⟩

/-- Every item (token or lexical error) carries the source slice at its span, and the line/column of
its span start — for every decision function, i.e. for any token table and any error extent. -/
theorem lexWith_items (ch : List Char → Option String × Nat) (fuel : Nat) (s : List Char) (off line col : Nat) :
    ∀ it ∈ lexWith ch fuel s off line col, ItemAt s off line col it :=
  fun _ h => let ⟨_, hc, _⟩ := lexWith_cuts ch fuel s off line col; hc.item h

/-- Tokens and errors tile the source: the concatenation of their texts is the source. -/
theorem lex_tiling (ch : List Char → Option String × Nat) :
    ∀ fuel s off line col, s.length ≤ fuel →
      ((lexWith ch fuel s off line col).map (·.text)).flatten = s := by
  intro fuel s off line col h
  obtain ⟨r, hc, hr⟩ := lexWith_cuts ch fuel s off line col
  simpa [hr h] using hc.flatten_text

/-- Spans are contiguous, ordered and non-empty, from the start offset to the end of the text. -/
theorem lex_contiguous (ch : List Char → Option String × Nat) (fuel : Nat) (s : List Char) (off line col : Nat)
    (h : s.length ≤ fuel) : Contig off (lexWith ch fuel s off line col) (off + utf8Len s) := by
  obtain ⟨r, hc, hr⟩ := lexWith_cuts ch fuel s off line col
  exact contig_of_cuts hc _ (by simp [hr h])

/-- The line of a token is the number of line feeds before its span start; its column is the byte
length of the text between the last line feed and its span start. (`lexItems` = the lexer on a whole
text.) -/
theorem token_line_col (s : List Char) (it : Item) (h : it ∈ lexItems s) :
    ∃ pre post, s = pre ++ it.text ++ post ∧ it.start = utf8Len pre ∧ it.stop = utf8Len pre + utf8Len it.text ∧
      it.line = pre.count '\n' ∧
      (('\n' ∉ pre ∧ it.col = utf8Len pre) ∨
       (∃ a b, pre = a ++ '\n' :: b ∧ '\n' ∉ b ∧ it.col = utf8Len b)) := by
  obtain ⟨pre, post, hs, _, hstart, hstop, hlc⟩ := lexWith_items choose _ _ _ _ _ it h
  have hl : it.line = (advancePos pre 0 0).1 := congrArg Prod.fst hlc
  have hc : it.col = (advancePos pre 0 0).2 := congrArg Prod.snd hlc
  rw [Nat.zero_add] at hstart
  refine ⟨pre, post, hs, hstart, hstart ▸ hstop, by rw [hl, advancePos_line, Nat.zero_add], ?_⟩
  by_cases hnl : '\n' ∈ pre
  · obtain ⟨a, b, hab, hb⟩ := exists_last_split hnl
    exact .inr ⟨a, b, hab, hb, by rw [hc, hab, advancePos_after_nl a b 0 0 hb]⟩
  · exact .inl ⟨hnl, by rw [hc, advancePos_no_nl hnl, Nat.zero_add]⟩

/-- `lexItems` tiles the whole text from offset 0. -/
theorem lexItems_tiling (s : List Char) :
    ((lexItems s).map (·.text)).flatten = s ∧ Contig 0 (lexItems s) (utf8Len s) := by
  refine ⟨lex_tiling choose _ _ _ _ _ (Nat.le_refl _), ?_⟩
  have := lex_contiguous choose s.length s 0 0 0 (Nat.le_refl _)
  simpa [lexItems] using this

/-- OSCAT blanking changes no position: the preprocessed text is the original with one region
replaced by a text of the same byte length that moves line/column in the same way. -/
theorem preprocess_keeps_positions (s : List Char) :
    preprocess s = s ∨
    ∃ a m b, s = a ++ m ++ b ∧ preprocess s = a ++ blank m ++ b ∧
      utf8Len (blank m) = utf8Len m ∧ ∀ l c, advancePos (blank m) l c = advancePos m l c := by
  unfold preprocess
  split
  · next a b hfa hfb =>
    split
    · next hab =>
      refine .inr ⟨_, _, _, ?_, rfl, blank_utf8Len _, blank_advancePos _⟩
      have h1 : s.drop b = (s.drop (a + oscatStart.length)).drop (b - (a + oscatStart.length)) := by
        rw [List.drop_drop, Nat.add_sub_cancel' (markers_disjoint s a b hfa hfb hab)]
      rw [h1, List.append_assoc, List.take_append_drop, List.take_append_drop]
    · exact .inl rfl
  · exact .inl rfl

/-- Synthetic semicolons are only *added*: dropping the items with empty text gives back the
lexer's items unchanged (so the tiling theorems carry over to `tokenizeProgram`). -/
theorem insertSemis_only_adds (items : List Item) (h : ∀ it ∈ items, it.text ≠ []) (b : Bool) :
    (insertSemisGo b items).filter (fun it => !it.text.isEmpty) = items := by
  rw [← List.filterMap_eq_filter, filterMap_insertSemisGo _ (fun _ => rfl), List.filterMap_eq_filter, List.filter_eq_self]
  exact fun it hit => by simpa using h it hit

/-! ### non-vacuity: the statements apply to concrete, non-trivial texts -/

example : (lexItems "a (* c *)\nb".toList).map (fun it => (it.ty, it.start, it.stop, it.line, it.col)) =
    [("Identifier", 0, 1, 0, 0), ("Whitespace", 1, 2, 0, 1), ("Comment", 2, 9, 0, 2), ("Newline", 9, 10, 0, 9),
     ("Identifier", 10, 11, 1, 0)] := by rw [lexItems_eq_fast]; decide +kernel

example : ((tokenizeProgram "END_IF x".toList).map (fun it => (it.ty, it.text.length))) =
    [("EndIf", 6), ("Whitespace", 1), ("Semicolon", 0), ("Identifier", 1)] := by
  rw [tokenizeProgram, lexItems_eq_fast]; decide +kernel

end C05

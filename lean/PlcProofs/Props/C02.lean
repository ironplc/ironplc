import PlcProofs.Lemmas.Analyze
import PlcModel.Stages

/-!
# C02 — the check verdict agrees with the documented semantic rules, in both directions

Model: `PlcModel/Analyze.lean`.  A rule is `grp` of the codes its sites yield, so for every rule one theorem
(`mem_rule…`, `fb_call_rule`) says for an arbitrary code `c` that `c` is among the reported codes exactly when
some site of the unit violates the rule as documented and `c` is the rule's code for that violation
(`code ∈ flatten` = the rule fires; a rule's group list is empty = the rule is silent), for units of any size.
The statements per documented code (`struct_rule` … `stdlib_rule`, `const_init_rule`, `enum_use_rule`; `call_resolved` /
`call_unresolved` for the five codes of the call rule and the documented order of its checks) and
`rule_reports_only_its_codes` are read off from it — every one of the eleven rules of `stages.rs` has its statement.
The pipeline theorems say when the whole analysis succeeds.
Sites are given as membership in the declaration list, so every statement is about all
declarations, all variables and all statements of a unit.
-/

namespace C02

theorem mem_ruleStruct (ds : List ADecl) (c : Nat) :
    c ∈ (ruleStruct ds).flatten ↔ c = P0003 ∧ ∃ n es, ADecl.structT n es ∈ ds ∧ ¬ (es.map (·.1)).Nodup := by
  simp only [ruleStruct, mem_grp_flatten, List.mem_filterMap, ← hasDup_iff]
  constructor
  · rintro ⟨d, hd, h⟩
    cases d <;> simp at h
    exact ⟨h.2.symm, _, _, hd, h.1⟩
  · rintro ⟨rfl, n, es, hd, h⟩
    exact ⟨_, hd, if_pos h⟩

/-- P0003 is reported exactly when some structure has two elements with the same name. -/
theorem struct_rule (ds : List ADecl) :
    P0003 ∈ (ruleStruct ds).flatten ↔ ∃ n es, ADecl.structT n es ∈ ds ∧ ¬ (es.map (·.1)).Nodup :=
  (mem_ruleStruct ds _).trans (and_iff_right rfl)

/-- … and the rule reports nothing else. -/
theorem struct_rule_only (ds : List ADecl) (c : Nat) (h : c ∈ (ruleStruct ds).flatten) : c = P0003 :=
  ((mem_ruleStruct ds c).mp h).1

theorem mem_ruleSubrange (ds : List ADecl) (c : Nat) :
    c ∈ (ruleSubrange ds).flatten ↔ c = P0004 ∧ ∃ n lo hi, ADecl.subrangeT n lo hi ∈ ds ∧ ¬ lo < hi := by
  simp only [ruleSubrange, mem_grp_flatten, List.mem_filterMap, Int.not_lt]
  constructor
  · rintro ⟨d, hd, h⟩
    cases d <;> simp at h
    exact ⟨h.2.symm, _, _, _, hd, h.1⟩
  · rintro ⟨rfl, n, lo, hi, hd, h⟩
    exact ⟨_, hd, if_pos h⟩

/-- P0004 is reported exactly when some subrange declaration has a minimum that is not below its maximum. -/
theorem subrange_rule (ds : List ADecl) :
    P0004 ∈ (ruleSubrange ds).flatten ↔ ∃ n lo hi, ADecl.subrangeT n lo hi ∈ ds ∧ ¬ lo < hi :=
  (mem_ruleSubrange ds _).trans (and_iff_right rfl)

theorem mem_ruleEnumUnique (ds : List ADecl) (c : Nat) :
    c ∈ (ruleEnumUnique ds).flatten ↔ c = P0005 ∧ ∃ n vs d, ADecl.enumT n vs d ∈ ds ∧ ¬ vs.Nodup := by
  simp only [ruleEnumUnique, mem_grp_flatten, List.mem_filterMap, ← hasDup_iff]
  constructor
  · rintro ⟨d, hd, h⟩
    cases d <;> simp at h
    exact ⟨h.2.symm, _, _, _, hd, h.1⟩
  · rintro ⟨rfl, n, vs, d, hd, h⟩
    exact ⟨_, hd, if_pos h⟩

/-- P0005 is reported exactly when some enumeration declaration lists a value twice. -/
theorem enum_unique_rule (ds : List ADecl) :
    P0005 ∈ (ruleEnumUnique ds).flatten ↔ ∃ n vs d, ADecl.enumT n vs d ∈ ds ∧ ¬ vs.Nodup :=
  (mem_ruleEnumUnique ds _).trans (and_iff_right rfl)

theorem mem_ruleTask (ds : List ADecl) (c : Nat) :
    c ∈ (ruleTask ds).flatten ↔ c = P0011 ∧
      ∃ n gs tasks progs p t, ADecl.config n gs tasks progs ∈ ds ∧ p ∈ progs ∧ p.task = some t ∧ t ∉ tasks := by
  rw [ruleTask, mem_grp_flatten, List.mem_flatMap]
  constructor
  · rintro ⟨d, hd, h⟩
    split at h
    · obtain ⟨p, hp, h⟩ := List.mem_filterMap.mp h
      cases ht : p.task <;>
        simp only [ht, Option.ite_none_left_eq_some, List.contains_iff_mem, Option.some.injEq, reduceCtorEq] at h
      exact ⟨h.2.symm, _, _, _, _, p, _, hd, hp, ht, h.1⟩
    · cases h
  · rintro ⟨rfl, n, gs, tasks, progs, p, t, hd, hp, ht, hnt⟩
    refine ⟨_, hd, List.mem_filterMap.mpr ⟨p, hp, ?_⟩⟩
    simp [ht, hnt]

/-- P0011 is reported exactly when some program instance names a task its resource does not define. -/
theorem task_rule (ds : List ADecl) :
    P0011 ∈ (ruleTask ds).flatten ↔
      ∃ n gs tasks progs p t, ADecl.config n gs tasks progs ∈ ds ∧ p ∈ progs ∧ p.task = some t ∧ t ∉ tasks :=
  (mem_ruleTask ds _).trans (and_iff_right rfl)

theorem mem_ruleVarUse (ds : List ADecl) (c : Nat) :
    c ∈ (ruleVarUse ds).flatten ↔ c = P0015 ∧
      ∃ d ∈ ds, d.isPou = true ∧ ∃ s ∈ d.body, ∃ r ∈ s.varRefs, r ≠ d.name ∧ ∀ v ∈ d.vars, v.name ≠ r := by
  simp only [ruleVarUse, mem_grp_flatten, List.mem_flatMap, List.mem_ite_nil_right, List.mem_filterMap,
    Option.ite_none_left_eq_some, Option.some.injEq, Bool.or_eq_true, beq_iff_eq, List.any_eq_true, not_or, not_exists,
    not_and]
  constructor
  · rintro ⟨d, hd, hp, r, ⟨s, hs, hr⟩, ⟨hn, hv⟩, rfl⟩
    exact ⟨rfl, d, hd, hp, s, hs, r, hr, hn, hv⟩
  · rintro ⟨rfl, d, hd, hp, s, hs, r, hr, hn, hv⟩
    exact ⟨d, hd, hp, r, ⟨s, hs, hr⟩, ⟨hn, hv⟩, rfl⟩

/-- P0015 is reported exactly when some POU uses a variable that is neither its own name nor one
of its declared variables — in an assignment target, an expression, or a call argument, at any
statement nesting depth. -/
theorem var_use_rule (ds : List ADecl) :
    P0015 ∈ (ruleVarUse ds).flatten ↔
      ∃ d ∈ ds, d.isPou = true ∧ ∃ s ∈ d.body, ∃ r ∈ s.varRefs, r ≠ d.name ∧ ∀ v ∈ d.vars, v.name ≠ r :=
  (mem_ruleVarUse ds _).trans (and_iff_right rfl)

theorem mem_ruleConstFb (ds : List ADecl) (c : Nat) :
    c ∈ (ruleConstFb ds).flatten ↔ c = P0017 ∧ ∃ d ∈ ds, ∃ v ∈ d.vars, v.const = true ∧ isFbVar ds v = true :=
  mem_sites_code (fun _ v c => by simp only [Option.ite_none_right_eq_some, Option.some.injEq, Bool.and_eq_true]) c

/-- P0017 is reported exactly when some CONSTANT variable is a function block instance. -/
theorem const_fb_rule (ds : List ADecl) :
    P0017 ∈ (ruleConstFb ds).flatten ↔ ∃ d ∈ ds, ∃ v ∈ d.vars, v.const = true ∧ isFbVar ds v = true :=
  (mem_ruleConstFb ds _).trans (and_iff_right rfl)

theorem mem_ruleExternalConst (ds : List ADecl) (c : Nat) :
    c ∈ (ruleExternalConst ds).flatten ↔ c = P0018 ∧
      ∃ d ∈ ds, ∃ v ∈ d.vars, v.cls = .external ∧ v.const = false ∧
        ∃ g ∈ ds, ∃ w ∈ g.vars, w.const = true ∧ w.cls = .global ∧ w.name = v.name :=
  mem_sites_code (fun _ v c => by
    simp only [Option.ite_none_right_eq_some, Option.some.injEq, Bool.and_eq_true, beq_iff_eq, Bool.not_eq_true',
      List.contains_iff_mem, List.mem_map, List.mem_flatMap, List.mem_filter, and_assoc]) c

/-- P0018 is reported exactly when a non-constant VAR_EXTERNAL has the name of a constant VAR_GLOBAL. -/
theorem external_const_rule (ds : List ADecl) :
    P0018 ∈ (ruleExternalConst ds).flatten ↔
      ∃ d ∈ ds, ∃ v ∈ d.vars, v.cls = .external ∧ v.const = false ∧
        ∃ g ∈ ds, ∃ w ∈ g.vars, w.const = true ∧ w.cls = .global ∧ w.name = v.name :=
  (mem_ruleExternalConst ds _).trans (and_iff_right rfl)

theorem mem_ruleStdlib (ds : List ADecl) (c : Nat) :
    c ∈ (ruleStdlib ds).flatten ↔ c = P0029 ∧
      ∃ d ∈ ds, ∃ v ∈ d.vars, ∃ t, v.refEdge = some t ∧ isUnsupportedStd t = true :=
  mem_sites_code (fun _ v c => by cases v.refEdge <;> simp) c

/-- P0029 is reported exactly when some variable is an instance of a standard function block the
analyzer does not implement. -/
theorem stdlib_rule (ds : List ADecl) :
    P0029 ∈ (ruleStdlib ds).flatten ↔ ∃ d ∈ ds, ∃ v ∈ d.vars, ∃ t, v.refEdge = some t ∧ isUnsupportedStd t = true :=
  (mem_ruleStdlib ds _).trans (and_iff_right rfl)

/-! ### the function block call rule (P0006–P0009, P0021), site by site -/

/-- the call `inst(…)` in POU `d` resolves to the function block declaration `callee`: `inst` is a variable of `d`
that is a function block instance, and its type names a function block of the unit -/
def Resolves (ds : List ADecl) (d : ADecl) (inst : Nat) (callee : ADecl) : Prop :=
  ∃ v, d.vars.find? (fun v => v.name == inst && isFbVar ds v) = some v ∧ v.refEdge.bind (findFb ds) = some callee

/-- P0021: the instance does not resolve -/
theorem call_unresolved (ds : List ADecl) (d : ADecl) (i : Nat) (f : List (Nat × Nat)) (p : List Nat) (o : List (Nat × Nat))
    (h : ¬ ∃ callee, Resolves ds d i callee) : callCode ds d i f p o = some P0021 := by
  unfold callCode
  split
  · rfl
  · rename_i v hv
    split
    · rfl
    · rename_i callee hc
      exact absurd ⟨callee, v, hv, hc⟩ h

/-- formal and positional arguments in one call -/
def CallMixed (f : List (Nat × Nat)) (p : List Nat) : Prop := f ≠ [] ∧ p ≠ []
/-- the callee has a variable called `n` in a block of one of the classes `cls` -/
def NamesVar (callee : ADecl) (cls : List VCls) (n : Nat) : Prop := ∃ x ∈ callee.vars, x.cls ∈ cls ∧ x.name = n
/-- some formal argument names no VAR_INPUT / VAR_IN_OUT variable of the callee -/
def BadFormal (callee : ADecl) (f : List (Nat × Nat)) : Prop := ∃ a ∈ f, ¬ NamesVar callee [.input, .inout] a.1
/-- positional arguments, but not as many as the callee has VAR_INPUT variables -/
def BadCount (callee : ADecl) (p : List Nat) : Prop := p ≠ [] ∧ p.length ≠ (callee.vars.filter (·.cls == .input)).length
/-- some output assignment names no VAR_OUTPUT variable of the callee -/
def BadOut (callee : ADecl) (o : List (Nat × Nat)) : Prop := ∃ a ∈ o, ¬ NamesVar callee [.output] a.1

/-- the truth table of "the first of four tests that applies decides the answer" -/
theorem first_of_four {b1 b2 b3 b4 : Bool} {Q1 Q2 Q3 Q4 : Prop}
    (h1 : b1 = true ↔ Q1) (h2 : b2 = true ↔ Q2) (h3 : b3 = true ↔ Q3) (h4 : b4 = true ↔ Q4) {r : Option Nat}
    (hr : r = if b1 = true then some P0006 else if b2 = true then some P0007 else if b3 = true then some P0008
              else if b4 = true then some P0009 else none) :
    (r = some P0006 ↔ Q1) ∧ (r = some P0007 ↔ ¬ Q1 ∧ Q2) ∧ (r = some P0008 ↔ ¬ Q1 ∧ ¬ Q2 ∧ Q3) ∧
    (r = some P0009 ↔ ¬ Q1 ∧ ¬ Q2 ∧ ¬ Q3 ∧ Q4) ∧ (r = none ↔ ¬ Q1 ∧ ¬ Q2 ∧ ¬ Q3 ∧ ¬ Q4) := by
  cases propext h1; cases propext h2; cases propext h3; cases propext h4
  subst hr
  revert b1 b2 b3 b4
  decide +kernel

/-- the test of the call rule for formal arguments and for output assignments: some name in the list is not that of
a variable of the callee in the classes `q` selects -/
theorem badName_iff (callee : ADecl) (q : AVar → Bool) (cls : List VCls) (hq : ∀ x, q x = true ↔ x.cls ∈ cls)
    (l : List (Nat × Nat)) :
    (l.any fun a => !((callee.vars.filter q).any (·.name == a.1))) = true ↔ ∃ a ∈ l, ¬ NamesVar callee cls a.1 := by
  simp only [List.any_eq_true, Bool.not_eq_true', List.any_eq_false, List.mem_filter, beq_iff_eq, hq, NamesVar,
    not_exists, not_and, and_imp]

/-- the documented order of the checks on a call that resolves: mixing formal and positional arguments (P0006), a formal
argument that names no input or in-out variable of the callee (P0007), a positional list whose length is not the
number of inputs (P0008), an output assignment that names no output of the callee (P0009) — the first that applies is
reported, and nothing is reported exactly when none applies. -/
theorem call_resolved (ds : List ADecl) (d : ADecl) (i : Nat) (f : List (Nat × Nat)) (p : List Nat) (o : List (Nat × Nat))
    (callee : ADecl) (h : Resolves ds d i callee) :
    (callCode ds d i f p o = some P0006 ↔ CallMixed f p) ∧
    (callCode ds d i f p o = some P0007 ↔ ¬ CallMixed f p ∧ BadFormal callee f) ∧
    (callCode ds d i f p o = some P0008 ↔ ¬ CallMixed f p ∧ ¬ BadFormal callee f ∧ BadCount callee p) ∧
    (callCode ds d i f p o = some P0009 ↔ ¬ CallMixed f p ∧ ¬ BadFormal callee f ∧ ¬ BadCount callee p ∧ BadOut callee o) ∧
    (callCode ds d i f p o = none ↔ ¬ CallMixed f p ∧ ¬ BadFormal callee f ∧ ¬ BadCount callee p ∧ ¬ BadOut callee o) := by
  obtain ⟨v, hv, hc⟩ := h
  refine first_of_four ?_ ?_ ?_ ?_ (by simp only [callCode, hv, hc]; rfl)
  · simp [CallMixed]
  · exact badName_iff callee _ [.input, .inout] (by simp) f
  · simp [BadCount]
  · exact badName_iff callee _ [.output] (by simp) o

theorem callCode_codes {ds : List ADecl} {d : ADecl} {i : Nat} {f : List (Nat × Nat)} {p : List Nat} {o : List (Nat × Nat)}
    {c : Nat} (h : callCode ds d i f p o = some c) : c ∈ [P0006, P0007, P0008, P0009, P0021] := by
  unfold callCode at h
  split at h
  · cases h; decide
  · split at h
    · cases h; decide
    · simp only [ite_some_eq_some, reduceCtorEq, and_false, or_false] at h
      rcases h with ⟨_, rfl⟩ | ⟨_, ⟨_, rfl⟩ | ⟨_, ⟨_, rfl⟩ | ⟨_, _, rfl⟩⟩⟩ <;> decide

/-- A call-rule code is reported exactly when some call statement of some POU of the unit gets it. -/
theorem fb_call_rule (ds : List ADecl) (c : Nat) :
    c ∈ (ruleFbCall ds).flatten ↔
      ∃ d ∈ ds, d.isPou = true ∧ ∃ i f p o, AStmt.call i f p o ∈ d.body ∧ callCode ds d i f p o = some c := by
  rw [ruleFbCall, mem_grp_flatten, List.mem_flatMap]
  constructor
  · rintro ⟨d, hd, h⟩
    obtain ⟨s, hs, h⟩ := List.mem_filterMap.mp h
    split at h
    · obtain ⟨hp, h⟩ := Option.ite_none_right_eq_some.mp h
      exact ⟨d, hd, hp, _, _, _, _, hs, h⟩
    · cases h
  · rintro ⟨d, hd, hp, i, f, p, o, hs, h⟩
    exact ⟨d, hd, List.mem_filterMap.mpr ⟨_, hs, (if_pos hp).trans h⟩⟩

/-! ### constants are initialised (P0016) -/

/-- a CONSTANT variable (not VAR_EXTERNAL) that is a function block instance or a structure: the rule cannot judge it -/
def ConstOfUnjudgedType (ds : List ADecl) : Prop :=
  ∃ d ∈ ds, ∃ v ∈ d.vars, v.const = true ∧ v.cls ≠ .external ∧ (isFbVar ds v = true ∨ isStructVar ds v = true)

theorem mem_ruleConstInit (ds : List ADecl) (c : Nat) :
    c ∈ (ruleConstInit ds).flatten ↔
      ConstOfUnjudgedType ds ∧ c = P9999 ∨
      ¬ ConstOfUnjudgedType ds ∧ c = P0016 ∧ ∃ d ∈ ds, ∃ v ∈ d.vars, v.const = true ∧ v.cls ≠ .external ∧ v.init = none := by
  have hne : P0016 ≠ P9999 := by decide
  simp only [ruleConstInit, mem_abort9999, List.mem_flatMap, List.mem_filterMap, Option.ite_none_right_eq_some,
    ite_some_eq_some, Bool.and_eq_true, Bool.or_eq_true, bne_iff_ne, Option.isNone_iff_eq_none, Option.some.injEq,
    hne, and_false, or_false, and_true, and_assoc]
  -- the first alternative is now `ConstOfUnjudgedType ds ∧ c = P9999`, written out
  refine or_congr Iff.rfl (and_congr_right fun hU => ⟨?_, ?_⟩)
  · rintro ⟨d, hd, v, hv, h1, h2, ⟨hA, _⟩ | ⟨_, hi, rfl⟩⟩
    · exact absurd ⟨d, hd, v, hv, h1, h2, hA⟩ hU
    · exact ⟨rfl, d, hd, v, hv, h1, h2, hi⟩
  · rintro ⟨rfl, d, hd, v, hv, h1, h2, hi⟩
    exact ⟨d, hd, v, hv, h1, h2, Or.inr ⟨fun hA => hU ⟨d, hd, v, hv, h1, h2, hA⟩, hi, rfl⟩⟩

/-- P0016 is reported exactly when some CONSTANT variable outside VAR_EXTERNAL has no initial value — unless the unit
holds a constant the rule cannot judge, in which case the rule reports P9999 and nothing else. -/
theorem const_init_rule (ds : List ADecl) :
    (P0016 ∈ (ruleConstInit ds).flatten ↔
      ¬ ConstOfUnjudgedType ds ∧
      ∃ d ∈ ds, ∃ v ∈ d.vars, v.const = true ∧ v.cls ≠ .external ∧ v.init = none) ∧
    (P9999 ∈ (ruleConstInit ds).flatten ↔ ConstOfUnjudgedType ds) := by
  have hne : P0016 ≠ P9999 := by decide
  simp only [mem_ruleConstInit, hne, hne.symm, and_false, false_and, or_false, false_or, true_and, and_true]

/-! ### enumeration values are values of their type (P0012, P0014) -/

/-- a site the rule looks at: an enumeration-typed variable, or a structure element with an initial value, of the
type named `t`; `x` is the initial value, if any -/
def EnumSite (ds : List ADecl) (t : Nat) (x : Option Nat) : Prop :=
  (∃ d ∈ ds, ∃ v ∈ d.vars, v.ty = .named t ∧ isEnumVar ds v = true ∧ v.init = x) ∨
  (∃ n es, ADecl.structT n es ∈ ds ∧ ∃ e ∈ es, e.2.1 = .named t ∧ e.2.2 = x ∧ x.isSome = true)

/-- what the rule answers at a site whose type has the values `ev` (`none`: no enumeration of the unit) and whose
initial value is `x`: the test `ruleEnumUse` writes out once for variables and once for structure elements -/
def enumCheck (ev : Option (List Nat)) (x : Option Nat) : Option Nat :=
  match ev with
  | none => some P0012
  | some vs => match x with
    | some x => if vs.contains x then none else some P0014
    | none => none

theorem enumCheck_eq_some {ev : Option (List Nat)} {x : Option Nat} {c : Nat} :
    enumCheck ev x = some c ↔
      ev = none ∧ c = P0012 ∨ ∃ vs y, ev = some vs ∧ x = some y ∧ y ∉ vs ∧ c = P0014 := by
  cases ev <;> cases x <;> simp [enumCheck, eq_comm (a := c)]

theorem mem_ruleEnumUse (ds : List ADecl) (c : Nat) :
    c ∈ (ruleEnumUse ds).flatten ↔ ∃ t x, EnumSite ds t x ∧ enumCheck (enumValues ds (ds.length + 1) t) x = some c := by
  rw [ruleEnumUse, mem_grp_flatten, List.mem_flatMap]
  constructor
  · rintro ⟨d, hd, h⟩
    rw [List.mem_append, List.mem_filterMap] at h
    rcases h with ⟨v, hv, h⟩ | h
    · split at h
      · rename_i t ht
        obtain ⟨he, h⟩ := Option.ite_none_right_eq_some.mp h
        exact ⟨t, v.init, Or.inl ⟨d, hd, v, hv, ht, he, rfl⟩, h⟩
      · cases h
    · split at h
      · rename_i n es
        obtain ⟨e, he, h⟩ := List.mem_filterMap.mp h
        split at h
        · rename_i t x ht hx
          refine ⟨t, some x, Or.inr ⟨n, es, hd, e, he, ht, hx, rfl⟩, ?_⟩
          rw [← h]; cases enumValues ds (ds.length + 1) t <;> rfl
        · cases h
      · cases h
  · rintro ⟨t, x, ⟨d, hd, v, hv, ht, he, rfl⟩ | ⟨n, es, hd, e, he, ht, hx, hs⟩, h⟩
    · refine ⟨d, hd, List.mem_append_left _ (List.mem_filterMap.mpr ⟨v, hv, ?_⟩)⟩
      rw [ht]; exact (if_pos he).trans h
    · obtain ⟨x, rfl⟩ := Option.isSome_iff_exists.mp hs
      refine ⟨_, hd, List.mem_append_right _ (List.mem_filterMap.mpr ⟨e, he, ?_⟩)⟩
      rw [ht, hx, ← h]; dsimp only; cases enumValues ds (ds.length + 1) t <;> rfl

/-- P0012 is reported exactly when the type of some site is not an enumeration the unit declares (directly or through
aliases); P0014 exactly when some site's initial value is not among the values of its enumeration. -/
theorem enum_use_rule (ds : List ADecl) :
    (P0012 ∈ (ruleEnumUse ds).flatten ↔ ∃ t x, EnumSite ds t x ∧ enumValues ds (ds.length + 1) t = none) ∧
    (P0014 ∈ (ruleEnumUse ds).flatten ↔
      ∃ t x vs, EnumSite ds t (some x) ∧ enumValues ds (ds.length + 1) t = some vs ∧ x ∉ vs) := by
  have hne : P0012 ≠ P0014 := by decide
  simp only [mem_ruleEnumUse, enumCheck_eq_some, hne, hne.symm, and_false, and_true, or_false, false_or, exists_false,
    true_and]
  constructor
  · rintro ⟨t, _, hs, vs, x, hv, rfl, hx⟩; exact ⟨t, x, vs, hs, hv, hx⟩
  · rintro ⟨t, x, vs, hs, hv, hx⟩; exact ⟨t, _, hs, vs, x, hv, rfl, hx⟩

/-- non-vacuity: `inst(nosuch := 0)` on an instance of a block with one input resolves and is a P0007 site; the same
call with an undeclared instance is a P0021 site -/
example :
    let ds : List ADecl := [.fb 1 [⟨10, .input, false, .int, none⟩] [],
      .prog 2 [⟨20, .var, false, .named 1, none⟩] [.call 20 [(11, 0)] [] [], .call 21 [] [] []]]
    ruleFbCall ds = [[P0007, P0021]] ∧ BadFormal (.fb 1 [⟨10, .input, false, .int, none⟩] []) [(11, 0)] := by
  refine ⟨by decide +kernel, (11, 0), List.mem_cons_self .., ?_⟩
  rintro ⟨x, hx, _, hn⟩
  simp only [ADecl.vars, List.mem_singleton] at hx
  subst hx
  cases hn

/-- non-vacuity: a CONSTANT without initial value is a P0016 site; an enumeration variable initialised with a value
that is not in its type is a P0014 site -/
example :
    ruleConstInit [.prog 2 [⟨20, .var, true, .int, none⟩] []] = [[P0016]] ∧
    ruleEnumUse [.enumT 5 [100, 101] none, .prog 2 [⟨20, .var, false, .named 5, some 102⟩] []] = [[P0014]] := by decide +kernel

/-- Pipeline: the analysis succeeds exactly when no stage objects and every rule is silent. -/
theorem analyze_ok_iff (ds : List ADecl) :
    analyzeDecls ds = [] ↔
      (recursive ds = false ∧ dupCodes ds = [] ∧ aliasUnsupported ds = false ∧ exprUnsupported ds = false ∧
       typeFbClash ds = false ∧ typeInitUnsupported ds = false ∧ unknownTypes ds = [] ∧ rules ds = []) := by
  have hdup : (!(dupCodes ds).isEmpty) = true → ((dupCodes ds).eraseDups.map fun c => [c]) ≠ [] := by
    cases dupCodes ds <;> simp [List.eraseDups_cons]
  simp only [analyzeDecls, abort_eq_nil_iff fun _ => List.cons_ne_nil _ _, abort_eq_nil_iff hdup,
    Bool.not_eq_false', List.isEmpty_iff]

/-- A unit that satisfies a collecting rule is never rejected with that rule's code: shown here for
the subrange rule (the others follow the same way from the `*_rule` theorems). -/
theorem no_spurious_P0004 (ds : List ADecl)
    (h : ∀ n lo hi, ADecl.subrangeT n lo hi ∈ ds → lo < hi) : P0004 ∉ (ruleSubrange ds).flatten := by
  rw [subrange_rule]
  rintro ⟨n, lo, hi, hd, hn⟩
  exact hn (h n lo hi hd)

/-- Single fault, direction "violates ⇒ code": when the unit gets as far as the rules (no earlier
stage aborts) and a subrange declaration violates its rule, P0004 is among the reported codes. -/
theorem single_fault_P0004 (ds : List ADecl) (hreach : analyzeDecls ds = rules ds)
    (n : Nat) (lo hi : Int) (hd : ADecl.subrangeT n lo hi ∈ ds) (hv : ¬ lo < hi) :
    P0004 ∈ (analyzeDecls ds).flatten := by
  rw [hreach, mem_rules_flatten]
  exact Or.inr (Or.inl ((subrange_rule ds).mpr ⟨n, lo, hi, hd, hv⟩))

/-! ### non-vacuity -/

example : semantic [⟨false, [.subrangeT 1 5 5, .structT 2 [(3, .int, none), (3, .bool, none)]]⟩] = [[P0003], [P0004]] := by decide +kernel
example : semantic [⟨false, [.subrangeT 1 1 5, .prog 2 [⟨3, .var, false, .int, none⟩] [.assign 3 [3]]]⟩] = [] := by decide +kernel
example : semantic [⟨false, [.prog 2 [⟨3, .var, false, .int, none⟩] [.assign 3 [4]]]⟩] = [[P0015]] := by decide +kernel

/-! ### the stage table and the code (`Gen/Stages.lean` is re-extracted from `stages.rs`, the stage modules and
`problem-codes.csv` on every run) -/

/-- The model runs the transforms of `resolve_types` and the rules of `semantic` that `stages.rs` lists, in
the order it lists them (a stage added, removed or moved in the code breaks this). -/
theorem stage_order_is_code :
    xformStages.map (·.name) = Gen.xforms ∧ ruleStages.map (·.name) = Gen.rules := ⟨rfl, rfl⟩

/-- Running the stage table is the pipeline `analyzeDecls` that the other theorems are about. -/
theorem staged_pipeline (ds : List ADecl) : analyzeStaged ds = analyzeDecls ds := by
  unfold analyzeStaged analyzeDecls xformStages
  dsimp only [List.findSome?]
  cases recursive ds with | true => rfl | false => ?_
  cases (dupCodes ds).isEmpty with | false => rfl | true => ?_
  cases aliasUnsupported ds with | true => rfl | false => ?_
  cases exprUnsupported ds with | true => rfl | false => ?_
  cases typeFbClash ds with | true => rfl | false => ?_
  cases typeInitUnsupported ds with | true => rfl | false => ?_
  cases (unknownTypes ds).isEmpty with | false => rfl | true => ?_
  simp [ruleStages, rules]

/-- The model lets a stage report only problem codes that the stage's Rust module names (`Problem::…` in its
non-test source; P9999 is `Diagnostic::todo`, which names no `Problem`), and for the rules every code the
module names is one the model's rule can report (except P0013, the enumeration rule's own recursion
answer, which the declaration sort pre-empts with P0010). -/
theorem stage_codes_are_code :
    (∀ s ∈ xformStages, ∀ c ∈ s.codes, c = P9999 ∨ c ∈ namedInSource s.name) ∧
    (∀ s ∈ ruleStages, ∀ c ∈ s.codes, c = P9999 ∨ c ∈ namedInSource s.name) ∧
    (∀ s ∈ ruleStages, ∀ c ∈ namedInSource s.name, c = 13 ∨ c ∈ s.codes) := by decide +kernel

/-- Every code in the stage table is a published problem code (`problem-codes.csv`). -/
theorem stage_codes_published :
    (∀ s ∈ xformStages, ∀ c ∈ s.codes, (Gen.problems.any (·.1 == c)) = true) ∧
    (∀ s ∈ ruleStages, ∀ c ∈ s.codes, (Gen.problems.any (·.1 == c)) = true) := by decide +kernel

/-- A rule reports only the codes of its table entry, whatever the unit ("a unit … is never rejected with
[another] rule's problem code" at the level of single rules). -/
theorem rule_reports_only_its_codes :
    ∀ s ∈ ruleStages, ∀ ds, ∀ g ∈ s.run ds, ∀ c ∈ g, c ∈ s.codes := by
  intro s hs ds g hg c hc
  have hc : c ∈ (s.run ds).flatten := List.mem_flatten.mpr ⟨g, hg, hc⟩
  simp only [ruleStages, List.mem_cons, List.not_mem_nil, or_false] at hs
  rcases hs with rfl | rfl | rfl | rfl | rfl | rfl | rfl | rfl | rfl | rfl | rfl
  · exact List.mem_singleton.mpr ((mem_ruleStruct ds c).mp hc).1
  · exact List.mem_singleton.mpr ((mem_ruleSubrange ds c).mp hc).1
  · exact List.mem_singleton.mpr ((mem_ruleEnumUnique ds c).mp hc).1
  · obtain ⟨_, _, _, _, _, _, _, _, h⟩ := (fb_call_rule ds c).mp hc
    exact callCode_codes h
  · exact List.mem_singleton.mpr ((mem_ruleTask ds c).mp hc).1
  · obtain ⟨_, _, _, h⟩ := (mem_ruleEnumUse ds c).mp hc
    rcases enumCheck_eq_some.mp h with ⟨_, rfl⟩ | ⟨_, _, _, _, _, rfl⟩ <;> decide
  · exact List.mem_singleton.mpr ((mem_ruleVarUse ds c).mp hc).1
  · exact List.mem_singleton.mpr ((mem_ruleStdlib ds c).mp hc).1
  · rcases (mem_ruleConstInit ds c).mp hc with ⟨_, rfl⟩ | ⟨_, rfl, _⟩ <;> decide
  · exact List.mem_singleton.mpr ((mem_ruleConstFb ds c).mp hc).1
  · exact List.mem_singleton.mpr ((mem_ruleExternalConst ds c).mp hc).1

/-- non-vacuity: a unit that reaches the rules, and one on which the first transform (the declaration sort) aborts -/
example : analyzeStaged [.subrangeT 1 5 2] = [[P0004]] := by decide +kernel
example : analyzeStaged [.fb 1 [⟨2, .var, false, .named 1, none⟩] []] = [[P0010]] := by decide +kernel

end C02

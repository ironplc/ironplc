import PlcModel.Decode

/-!
# C14 — file encoding is transparent: the result depends only on the decoded text

Model: `PlcModel/Decode.lean` (`path_to_source`).  Everything after decoding is a function of the
decoded text by construction of the pipeline (`FileBackedProject` stores the `String`), so
"same decoded text ⇒ same verdict, codes and positions" needs no theorem; what needs one is that
each supported encoding of a text decodes back to that text.
Strict UTF-8 decoding is Lean core's `ByteArray.utf8Decode?`; its inverse property is core's
`List.utf8Decode?_utf8Encode`.  encoding_rs's agreement with this model is held by the
correspondence check (`ironplcc tokenize` on every encoding and on every byte value).
-/

namespace C14

/-- the bytes do not start with a byte-order mark -/
def NoBom : List UInt8 → Prop
  | 0xEF :: 0xBB :: 0xBF :: _ => False
  | 0xFF :: 0xFE :: _ => False
  | 0xFE :: 0xFF :: _ => False
  | _ => True

theorem utf8_roundtrip (cs : List Char) : decodeUtf8 (encodeUtf8 cs) = some cs := by
  have : (encodeUtf8 cs).toByteArray = cs.utf8Encode := rfl
  simp [decodeUtf8, this]

/-- UTF-8 with a byte-order mark decodes to the text (the mark is removed). -/
theorem decode_utf8_bom (cs : List Char) :
    decodeFile (0xEF :: 0xBB :: 0xBF :: encodeUtf8 cs) = some cs := by
  simp [decodeFile, utf8_roundtrip]

/-- without a byte-order mark: UTF-8 if the bytes are valid UTF-8, Windows-1252 otherwise -/
theorem decodeFile_noBom {bs : List UInt8} (h : NoBom bs) :
    decodeFile bs = some ((decodeUtf8 bs).getD (decodeCp1252 bs)) := by
  unfold decodeFile
  split
  · exact h.elim
  · exact h.elim
  · exact h.elim
  · cases decodeUtf8 bs <;> rfl

/-- UTF-8 without a byte-order mark decodes to the text. -/
theorem decode_utf8 (cs : List Char) (h : NoBom (encodeUtf8 cs)) : decodeFile (encodeUtf8 cs) = some cs := by
  rw [decodeFile_noBom h, utf8_roundtrip]; rfl

/-- a decoder that reads the encoding of one element off the front reads the encoding of a list back -/
theorem decode_flatMap {α β} {dec : List β → Option (List α)} {enc : α → List β} (h0 : dec [] = some [])
    (xs : List α) (h : ∀ x ∈ xs, ∀ rest, dec (enc x ++ rest) = (dec rest).map (x :: ·)) :
    dec (xs.flatMap enc) = some xs := by
  induction xs with
  | nil => exact h0
  | cons x xs ih =>
    rw [List.flatMap_cons, h x List.mem_cons_self, ih fun y hy => h y (List.mem_cons_of_mem _ hy)]
    rfl

theorem unitsOf_bytesOfUnit (le : Bool) {u : Nat} (hu : u < 65536) (rest : List UInt8) :
    unitsOf le (bytesOfUnit le u ++ rest) = (unitsOf le rest).map (u :: ·) := by
  have h1 : u % 256 < 256 := Nat.mod_lt _ (by decide)
  have h2 : u / 256 < 256 := (Nat.div_lt_iff_lt_mul (by decide)).mpr hu
  -- in either byte order the unit read back is `u % 256 + 256 * (u / 256)`
  cases le <;>
    simp only [bytesOfUnit, Bool.false_eq_true, if_true, if_false, List.cons_append, List.nil_append, unitsOf,
      UInt8.toNat_ofNat_of_lt' h1, UInt8.toNat_ofNat_of_lt' h2, Nat.mod_add_div, Nat.div_add_mod]

theorem char_range (c : Char) : c.toNat < 0xD800 ∨ (0xDFFF < c.toNat ∧ c.toNat < 0x110000) := by
  have := c.valid
  simp only [UInt32.isValidChar, Nat.isValidChar] at this
  exact this

/-- a character as one unit, or as a surrogate pair that recombines to it -/
theorem decodeUnits_unitsOfChar (c : Char) (rest : List Nat) :
    decodeUnits (unitsOfChar c ++ rest) = (decodeUnits rest).map (c :: ·) := by
  have hr := char_range c
  simp only [unitsOfChar]
  split
  · rw [List.singleton_append, decodeUnits.eq_def]
    simp only []
    rw [if_neg (by omega), if_neg (by omega), Char.ofNat_toNat]
  · rw [List.cons_append, List.cons_append, List.nil_append, decodeUnits.eq_def]
    simp only [Nat.add_sub_cancel_left]
    have hq := Nat.div_lt_of_lt_mul (show c.toNat - 0x10000 < 0x400 * 0x400 by omega)
    rw [if_pos ⟨Nat.le_add_right .., Nat.add_lt_add_left hq _⟩,
      if_pos ⟨Nat.le_add_right .., Nat.add_lt_add_left (Nat.mod_lt _ (by decide)) _⟩, Nat.add_assoc, Nat.div_add_mod',
      Nat.add_sub_cancel' (by omega), Char.ofNat_toNat]

theorem unitsOfChar_lt {c : Char} {u : Nat} (hu : u ∈ unitsOfChar c) : u < 65536 := by
  have hr := char_range c
  simp only [unitsOfChar] at hu
  split at hu <;> simp at hu <;> omega

theorem utf16_roundtrip (le : Bool) (cs : List Char) : decodeUtf16 le (encodeUtf16 le cs) = some cs := by
  have hu : ∀ u ∈ cs.flatMap unitsOfChar, u < 65536 := fun u hu =>
    let ⟨_, _, hc⟩ := List.mem_flatMap.mp hu; unitsOfChar_lt hc
  rw [decodeUtf16, encodeUtf16, decode_flatMap (dec := unitsOf le) rfl _ fun u h => unitsOf_bytesOfUnit le (hu u h)]
  exact decode_flatMap (dec := decodeUnits) rfl cs fun c _ => decodeUnits_unitsOfChar c

/-- UTF-16 with a byte-order mark, little or big endian, decodes to the text. -/
theorem decode_utf16_bom (cs : List Char) :
    decodeFile (0xFF :: 0xFE :: encodeUtf16 true cs) = some cs ∧
    decodeFile (0xFE :: 0xFF :: encodeUtf16 false cs) = some cs := by
  simp [decodeFile, utf16_roundtrip]

/-- Bytes without a byte-order mark that are not valid UTF-8 are read as Windows-1252, byte by byte;
in particular decoding never fails on them (P0028 needs a byte-order mark). -/
theorem decode_cp1252 (bs : List UInt8) (h : NoBom bs) (hn : decodeUtf8 bs = none) :
    decodeFile bs = some (decodeCp1252 bs) := by
  rw [decodeFile_noBom h, hn]; rfl

/-- Decoding is total on input without a byte-order mark. -/
theorem decode_total (bs : List UInt8) (h : NoBom bs) : (decodeFile bs).isSome = true := by
  rw [decodeFile_noBom h]; rfl

/-- the byte a character is stored as in Windows-1252, if it is in the repertoire -/
def cp1252Byte? (c : Char) : Option Nat := (List.range 256).find? fun n => cp1252Char (UInt8.ofNat n) == c

/-- the byte of a character of the repertoire, read off the table: `cp1252Byte?` searches, so evaluating it at all
256 bytes is quadratic, this is linear -/
def cp1252Back (c : Char) : Nat := if c.toNat < 256 then c.toNat else 128 + cp1252High.idxOf c.toNat

theorem cp1252Back_char : ∀ n, n < 256 → cp1252Back (cp1252Char (UInt8.ofNat n)) = n := by decide +kernel

/-- The Windows-1252 table is injective (it has a left inverse): distinct bytes are distinct
characters, so a text stored as Windows-1252 is recovered exactly whenever its bytes are not also
valid UTF-8.  (That exception is inherent to a sniffing decoder — `Ã©` in Windows-1252 is the UTF-8
encoding of `é`.) -/
theorem cp1252_left_inverse : ∀ n, n < 256 → cp1252Byte? (cp1252Char (UInt8.ofNat n)) = some n := by
  intro n hn
  rw [cp1252Byte?, List.find?_range_eq_some]
  refine ⟨beq_self_eq_true _, List.mem_range.mpr hn, fun j hj => ?_⟩
  rw [Bool.not_eq_true', beq_eq_false_iff_ne]
  exact fun e => Nat.ne_of_lt hj (by rw [← cp1252Back_char j (Nat.lt_trans hj hn), e, cp1252Back_char n hn])

/-- ASCII bytes mean the same in every supported byte encoding. -/
theorem cp1252_ascii : ∀ n, n < 128 → cp1252Char (UInt8.ofNat n) = Char.ofNat n := by
  intro n hn
  have h : (UInt8.ofNat n).toNat = n := UInt8.toNat_ofNat_of_lt' (Nat.lt_trans hn (by decide))
  simp only [cp1252Char, h, if_neg fun c : 0x80 ≤ n ∧ n < 0xA0 => Nat.not_le.mpr hn c.1]

/-! ### non-vacuity -/

example : decodeFile [0x78, 0xE9, 0x79] = some ['x', 'é', 'y'] := by decide +kernel
example : decodeFile [0xFF, 0xFE, 0x78, 0x00, 0x3D, 0xD8] = none := by decide +kernel
example : decodeFile [0xFF, 0xFE, 0x3D, 0xD8, 0x00, 0xDE] = some [Char.ofNat 0x1F600] := by decide +kernel

end C14

import PlcModel.Lex

/-! Lemmas about M-Lex: byte lengths and the line/column bookkeeping (`utf8Len`, `advancePos`); one step of the lexing loop and
`Cuts`, what every run of the loop does to the text; the synthetic semicolons; the OSCAT markers. -/

@[simp] theorem utf8Len_nil : utf8Len [] = 0 := rfl
@[simp] theorem utf8Len_cons (c : Char) (cs : List Char) : utf8Len (c :: cs) = c.utf8Size + utf8Len cs := by
  simp [utf8Len]
@[simp] theorem utf8Len_append (a b : List Char) : utf8Len (a ++ b) = utf8Len a + utf8Len b := by
  simp [utf8Len]

theorem utf8Len_pos {cs : List Char} (h : cs ≠ []) : 0 < utf8Len cs := by
  cases cs with
  | nil => exact absurd rfl h
  | cons c cs => exact Nat.lt_of_lt_of_le c.utf8Size_pos (utf8Len_cons c cs ▸ Nat.le_add_right ..)

theorem advancePos_append (a b : List Char) (l c : Nat) :
    advancePos (a ++ b) l c = advancePos b (advancePos a l c).1 (advancePos a l c).2 := by
  simp [advancePos, List.foldl_append]

theorem advancePos_cons (x : Char) (xs : List Char) (l c : Nat) :
    advancePos (x :: xs) l c = if x = '\n' then advancePos xs (l+1) 0 else advancePos xs l (c + x.utf8Size) := by
  by_cases h : x = '\n' <;> simp [advancePos, h]

theorem advancePos_line (pre : List Char) (l c : Nat) :
    (advancePos pre l c).1 = l + pre.count '\n' := by
  induction pre generalizing l c with
  | nil => rfl
  | cons x xs ih =>
    rw [advancePos_cons]
    by_cases h : x = '\n'
    · subst h; simp [ih]; exact Nat.add_right_comm ..
    · simp [h, ih]

theorem advancePos_no_nl {b : List Char} (h : '\n' ∉ b) (l c : Nat) :
    advancePos b l c = (l, c + utf8Len b) := by
  induction b generalizing c with
  | nil => rfl
  | cons x xs ih =>
    rw [advancePos_cons, if_neg (List.ne_of_not_mem_cons h).symm, ih (List.not_mem_of_not_mem_cons h), utf8Len_cons,
      Nat.add_assoc]

theorem advancePos_after_nl (a b : List Char) (l c : Nat) (h : '\n' ∉ b) :
    advancePos (a ++ '\n' :: b) l c = (l + a.count '\n' + 1, utf8Len b) := by
  rw [advancePos_append, advancePos_cons]
  simp only [if_true]
  rw [advancePos_no_nl h, advancePos_line]
  simp

/-- one step of the lexing loop; a token and an error differ only in `err` and `ty` -/
theorem lexWith_succ_cons (ch : List Char → Option String × Nat) (fuel : Nat) (c : Char) (cs : List Char) (off line col : Nat) :
    lexWith ch (fuel + 1) (c :: cs) off line col =
      let n := max 1 (min (ch (c :: cs)).2 (c :: cs).length)
      let txt := (c :: cs).take n
      ⟨(ch (c :: cs)).1.isNone, (ch (c :: cs)).1.getD "", off, off + utf8Len txt, line, col, txt⟩ ::
        lexWith ch fuel ((c :: cs).drop n) (off + utf8Len txt) (advancePos txt line col).1 (advancePos txt line col).2 := by
  simp only [lexWith]
  cases (ch (c :: cs)).1 <;> rfl

/-- `items` cut `s`, up to a rest `r`, into consecutive non-empty slices, each carrying the byte offset, line and
column at which it starts.  Every run of the lexing loop does (`lexWith_cuts`), whatever the decision function; what
C05 and C15 say of positions follows from this alone. -/
inductive Cuts : List Char → Nat → Nat → Nat → List Item → List Char → Prop
  | nil (s off l c) : Cuts s off l c [] s
  | cons {it : Item} {rest r : List Char} {items : List Item} {off l c : Nat} :
      it.text ≠ [] → it.start = off → it.stop = off + utf8Len it.text → it.line = l → it.col = c →
      Cuts rest it.stop (advancePos it.text l c).1 (advancePos it.text l c).2 items r →
      Cuts (it.text ++ rest) off l c (it :: items) r

theorem lexWith_cuts (ch : List Char → Option String × Nat) : ∀ fuel s off l c,
    ∃ r, Cuts s off l c (lexWith ch fuel s off l c) r ∧ (s.length ≤ fuel → r = []) := by
  intro fuel
  induction fuel with
  | zero => exact fun s off l c => ⟨s, by simpa [lexWith] using Cuts.nil s off l c, fun h => List.length_eq_zero_iff.mp (Nat.le_zero.mp h)⟩
  | succ fuel ih =>
    intro s off l c
    cases s with
    | nil => exact ⟨[], by simpa [lexWith] using Cuts.nil [] off l c, fun _ => rfl⟩
    | cons x xs =>
      rw [lexWith_succ_cons]
      generalize hn : max 1 (min (ch (x :: xs)).2 (x :: xs).length) = n
      obtain ⟨r, hr, hfull⟩ := ih ((x :: xs).drop n) (off + utf8Len ((x :: xs).take n))
        (advancePos ((x :: xs).take n) l c).1 (advancePos ((x :: xs).take n) l c).2
      replace hn : 1 ≤ n := hn ▸ Nat.le_max_left ..
      refine ⟨r, ?_, fun h => hfull (by rw [List.length_drop]; omega)⟩
      have hne : (x :: xs).take n ≠ [] := by simp; omega
      have := Cuts.cons (it := ⟨(ch (x :: xs)).1.isNone, (ch (x :: xs)).1.getD "", off, off + utf8Len ((x :: xs).take n), l, c,
        (x :: xs).take n⟩) hne rfl rfl rfl rfl hr
      rwa [List.take_append_drop] at this

/-- What is claimed of one item of the token stream of `s` (lexed from byte offset `off` at
position `line`,`col`): its text is a non-empty slice of `s`, its span is that slice's byte range,
and its line/column is the position reached by walking the text before it. -/
def C05.ItemAt (s : List Char) (off line col : Nat) (it : Item) : Prop :=
  ∃ pre post, s = pre ++ it.text ++ post ∧ it.text ≠ [] ∧ it.start = off + utf8Len pre ∧
    it.stop = it.start + utf8Len it.text ∧ (it.line, it.col) = advancePos pre line col

namespace Cuts
variable {s r : List Char} {off l c : Nat} {items : List Item}

theorem flatten_text (h : Cuts s off l c items r) : (items.map (·.text)).flatten ++ r = s := by
  induction h with
  | nil => rfl
  | cons _ _ _ _ _ _ ih => simp [ih]

theorem item (h : Cuts s off l c items r) {it : Item} (hit : it ∈ items) : C05.ItemAt s off l c it := by
  induction h with
  | nil => cases hit
  | @cons hd rest r items off l c hne hs he hl hc _ ih =>
    rcases List.mem_cons.mp hit with rfl | hit
    · exact ⟨[], rest, rfl, hne, by simpa using hs, by rw [he, hs], by rw [hl, hc]; rfl⟩
    · obtain ⟨pre, post, hrest, hne', hs', he', hlc⟩ := ih hit
      refine ⟨hd.text ++ pre, post, by simp [hrest], hne', ?_, he', ?_⟩
      · rw [hs', he, utf8Len_append, Nat.add_assoc]
      · rw [hlc, advancePos_append]
end Cuts

/-- the choice among the entries depends on the text only through what each pattern matches -/
theorem lexOneIn_congr {tbl : List Gen.Entry} {s s' : List Char}
    (h : ∀ e ∈ tbl, Re.longest isNd e.re s = Re.longest isNd e.re s') : lexOneIn tbl s = lexOneIn tbl s' :=
  List.foldl_rel (r := Eq) rfl fun e he best _ hb => by subst hb; rw [h e he]

/-- what discards the synthetic semicolons does not see `insertSemis` -/
theorem filterMap_insertSemisGo {β} (f : Item → Option β)
    (hf : ∀ it : Item, f { it with ty := "Semicolon", text := [] } = none) (b : Bool) (items : List Item) :
    (insertSemisGo b items).filterMap f = items.filterMap f := by
  induction items generalizing b with
  | nil => rfl
  | cons it rest ih =>
    simp only [insertSemisGo, apply_ite (List.filterMap f), List.filterMap_cons, hf]
    rw [ih, ih, ite_self, ite_self]

/-- split a list at the last occurrence of an element: the first occurrence in the reversed list -/
theorem exists_last_split {α} {x : α} {l : List α} (h : x ∈ l) : ∃ a b, l = a ++ x :: b ∧ x ∉ b := by
  obtain ⟨as, bs, e, hn⟩ := List.eq_append_cons_of_mem (List.mem_reverse.mpr h)
  exact ⟨bs.reverse, as.reverse, by simpa using congrArg List.reverse e, by simpa using hn⟩

theorem utf8Len_replicate_space (n : Nat) : utf8Len (List.replicate n ' ') = n := by
  rw [utf8Len, List.map_replicate, List.sum_replicate_nat]
  exact Nat.mul_one n

theorem advancePos_replicate_space (n l c : Nat) : advancePos (List.replicate n ' ') l c = (l, c + n) := by
  rw [advancePos_no_nl (by simp [List.mem_replicate]), utf8Len_replicate_space]

theorem blank_cons (x : Char) (xs : List Char) :
    blank (x :: xs) = (if x == '\n' then ['\n'] else List.replicate x.utf8Size ' ') ++ blank xs := by
  simp [blank]

theorem blank_utf8Len (m : List Char) : utf8Len (blank m) = utf8Len m := by
  induction m with
  | nil => rfl
  | cons x xs ih =>
    rw [blank_cons, utf8Len_append, ih]
    by_cases h : x = '\n'
    · subst h; simp
    · simp [h, utf8Len_replicate_space]

theorem blank_advancePos (m : List Char) (l c : Nat) : advancePos (blank m) l c = advancePos m l c := by
  induction m generalizing l c with
  | nil => rfl
  | cons x xs ih =>
    rw [blank_cons, advancePos_append, advancePos_cons]
    by_cases h : x = '\n'
    · subst h; simp [advancePos_cons, ih]
      rfl
    · simp [h, advancePos_replicate_space, ih]

theorem isPrefixOf'_spec {pat s : List Char} (h : isPrefixOf' pat s = true) : ∃ post, s = pat ++ post := by
  fun_induction isPrefixOf' pat s <;> simp_all

theorem findSub_spec {pat s : List Char} {i a : Nat} (h : findSub pat s i = some a) :
    ∃ pre post, s = pre ++ pat ++ post ∧ a = i + pre.length := by
  fun_induction findSub pat s i with
  | case1 i hp => exact ⟨[], [], by simp_all, by simp_all⟩
  | case2 => cases h
  | case3 c cs i hp =>
    obtain ⟨post, hpost⟩ := isPrefixOf'_spec hp
    exact ⟨[], post, by simpa using hpost, by simp_all⟩
  | case4 c cs i _ ih =>
    obtain ⟨pre, post, hs, ha⟩ := ih h
    exact ⟨c :: pre, post, by simp [hs], ha.trans (Nat.add_right_comm ..)⟩

/-- the two OSCAT markers cannot overlap: the end marker starts after the start marker ends -/
theorem markers_disjoint (s : List Char) (a b : Nat) (ha : findSub oscatStart s 0 = some a)
    (hb : findSub oscatEnd s 0 = some b) (hab : a < b) : a + oscatStart.length ≤ b := by
  obtain ⟨p1, q1, hs1, ha1⟩ := findSub_spec ha
  obtain ⟨p2, q2, hs2, hb1⟩ := findSub_spec hb
  rw [Nat.zero_add] at ha1 hb1; subst ha1 hb1
  refine Nat.le_of_not_lt fun hlt => ?_
  -- the end marker starts with `(`, which occurs in the start marker at index 0 only
  have hk : ∀ k, k < oscatStart.length → 1 ≤ k → oscatStart[k]? ≠ some '(' := by decide +kernel
  have hd : p2.length - p1.length < oscatStart.length := Nat.sub_lt_left_of_lt_add (Nat.le_of_lt hab) hlt
  have h1 : s[p2.length]? = some '(' := by
    rw [hs2, List.append_assoc, List.getElem?_append_right (Nat.le_refl _), Nat.sub_self]; rfl
  rw [hs1, List.append_assoc, List.getElem?_append_right (Nat.le_of_lt hab), List.getElem?_append_left hd] at h1
  exact hk _ hd (Nat.sub_pos_of_lt hab) h1

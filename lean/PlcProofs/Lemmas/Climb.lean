/-! Precedence climbing over abstract tokens: minimal-parenthesis printing round-trips (any precedences). -/

namespace Climb

structure Op where
  id : Nat
  prec : Nat
deriving DecidableEq, Repr

inductive Tok where
  | atom (n : Nat)
  | op (o : Op)
  | lp
  | rp
deriving DecidableEq, Repr

inductive Expr where
  | leaf (n : Nat)
  | bin (o : Op) (l r : Expr)
deriving DecidableEq, Repr

def Expr.size : Expr → Nat
  | .leaf _ => 1
  | .bin _ l r => l.size + r.size + 1

/-- minimal-parenthesis printing in a context that needs precedence ≥ c -/
def pr (c : Nat) : Expr → List Tok
  | .leaf n => [.atom n]
  | .bin o l r =>
    let body := pr o.prec l ++ [.op o] ++ pr (o.prec + 1) r
    if o.prec < c then [.lp] ++ body ++ [.rp] else body

inductive Res where
  | ok (e : Expr) (rest : List Tok)
  | fail
  | oof  -- out of fuel
deriving DecidableEq, Repr

mutual
  def parseE : Nat → Nat → List Tok → Res
    | 0, _, _ => .oof
    | fuel+1, minp, ts =>
      match parseAtom fuel ts with
      | .ok lhs ts' => loop fuel minp lhs ts'
      | .fail => .fail
      | .oof => .oof
  def parseAtom : Nat → List Tok → Res
    | 0, _ => .oof
    | _+1, .atom n :: ts => .ok (.leaf n) ts
    | fuel+1, .lp :: ts =>
      match parseE fuel 0 ts with
      | .ok e (.rp :: ts') => .ok e ts'
      | .ok _ _ => .fail
      | .fail => .fail
      | .oof => .oof
    | _+1, _ => .fail
  def loop : Nat → Nat → Expr → List Tok → Res
    | 0, _, _, _ => .oof
    | fuel+1, minp, lhs, ts =>
      match ts with
      | .op o :: ts' =>
        if minp ≤ o.prec then
          match parseE fuel (o.prec + 1) ts' with
          | .ok rhs ts'' => loop fuel minp (.bin o lhs rhs) ts''
          | .fail => .ok lhs ts
          | .oof => .oof
        else .ok lhs ts
      | _ => .ok lhs ts
end

/-- `rest` does not start with an operator at all -/
def NoOp : List Tok → Prop
  | .op _ :: _ => False
  | _ => True

/-- an answer other than "out of fuel" is the answer for one more unit of fuel -/
theorem mono : ∀ f,
    (∀ m ts, parseE f m ts ≠ .oof → parseE (f+1) m ts = parseE f m ts) ∧
    (∀ ts, parseAtom f ts ≠ .oof → parseAtom (f+1) ts = parseAtom f ts) ∧
    (∀ m l ts, loop f m l ts ≠ .oof → loop (f+1) m l ts = loop f m l ts) := by
  intro f
  induction f with
  | zero => exact ⟨fun _ _ h => absurd rfl h, fun _ h => absurd rfl h, fun _ _ _ h => absurd rfl h⟩
  | succ f ih =>
    obtain ⟨ihE, ihA, ihL⟩ := ih
    refine ⟨fun m ts h => ?_, fun ts h => ?_, fun m l ts h => ?_⟩
    · rw [parseE] at h ⊢
      rw [parseE]
      cases hA : parseAtom f ts with
      | oof => rw [hA] at h; exact absurd rfl h
      | fail => rw [ihA ts (hA ▸ nofun), hA]
      | ok lhs ts' => rw [ihA ts (hA ▸ nofun), hA]; rw [hA] at h; exact ihL _ _ _ h
    · cases ts with
      | nil => rfl
      | cons t ts =>
        cases t with
        | lp =>
          rw [parseAtom] at h ⊢
          rw [parseAtom]
          cases hE : parseE f 0 ts with
          | oof => rw [hE] at h; exact absurd rfl h
          | _ => rw [ihE 0 ts (hE ▸ nofun), hE]
        | _ => rfl
    · cases ts with
      | nil => rfl
      | cons t ts =>
        cases t with
        | op o =>
          rw [loop] at h ⊢
          rw [loop]
          split
          · rename_i hle
            rw [if_pos hle] at h
            cases hE : parseE f (o.prec + 1) ts with
            | oof => rw [hE] at h; exact absurd rfl h
            | fail => rw [ihE _ ts (hE ▸ nofun), hE]
            | ok rhs ts' => rw [ihE _ ts (hE ▸ nofun), hE]; rw [hE] at h; exact ihL _ _ _ h
          · rfl
        | _ => rfl

theorem monoE {f F m ts} (hF : f ≤ F) (h : parseE f m ts ≠ .oof) : parseE F m ts = parseE f m ts := by
  induction hF with
  | refl => rfl
  | step _ ih => rw [(mono _).1 _ _ (ih ▸ h), ih]

theorem monoL {f F m l ts} (hF : f ≤ F) (h : loop f m l ts ≠ .oof) : loop F m l ts = loop f m l ts := by
  induction hF with
  | refl => rfl
  | step _ ih => rw [(mono _).2.2 _ _ _ (ih ▸ h), ih]

/-- the loop at minimum precedence `m` stops in front of `rest`: its first token, if an operator, has precedence < m -/
def Fol (m : Nat) (rest : List Tok) : Prop := ∀ o ts, rest = .op o :: ts → o.prec < m

theorem Fol.mono {m m' : Nat} {rest : List Tok} (h : Fol m rest) (hm : m ≤ m') : Fol m' rest :=
  fun o ts e => Nat.lt_of_lt_of_le (h o ts e) hm

theorem loop_stop {m : Nat} {rest : List Tok} (h : Fol m rest) (f : Nat) (l : Expr) :
    loop (f+1) m l rest = .ok l rest := by
  cases rest with
  | nil => rfl
  | cons t ts =>
    cases t with
    | op o => rw [loop, if_neg (Nat.not_le.mpr (h o ts rfl))]
    | _ => rfl

/-- body of a binary node, printed without the outer parentheses -/
def body (o : Op) (l r : Expr) : List Tok := pr o.prec l ++ .op o :: pr (o.prec + 1) r

/-- Main lemma: with enough fuel, parsing the printing of `e` (printed for context `c ≥ minp`)
followed by `rest` (an operator there has precedence ≤ c) is being in the loop at level `minp` with `e` accumulated
and `rest` ahead. -/
theorem climb (e : Expr) : ∃ k, ∀ c minp rest f F, minp ≤ c → Fol (c + 1) rest →
    loop f minp e rest ≠ .oof → f + k ≤ F → parseE F minp (pr c e ++ rest) = loop f minp e rest := by
  induction e with
  | leaf n =>
    refine ⟨2, fun c minp rest f F _ _ h hF => ?_⟩
    obtain ⟨F, rfl⟩ := Nat.exists_eq_add_of_le' (Nat.le_of_add_left_le hF)
    show loop (F + 1) minp (.leaf n) rest = _
    exact monoL (by omega) h
  | bin o l r ihl ihr =>
    obtain ⟨kl, ihl⟩ := ihl
    obtain ⟨kr, ihr⟩ := ihr
    -- without the parentheses: `l`, then the loop takes `o` and reads `r` one level up
    have hbody : ∀ c minp rest f F, minp ≤ c → c ≤ o.prec → Fol (c + 1) rest →
        loop f minp (.bin o l r) rest ≠ .oof → f + kr + kl + 2 ≤ F →
        parseE F minp (body o l r ++ rest) = loop f minp (.bin o l r) rest := by
      intro c minp rest f F hm hc hcond h hF
      have hr : parseE (f + kr + 1) (o.prec + 1) (pr (o.prec + 1) r ++ rest) = .ok r rest := by
        have hs := loop_stop (hcond.mono (Nat.succ_le_succ hc)) 0 r
        rw [ihr _ _ rest 1 _ (Nat.le_refl _) (hcond.mono (Nat.succ_le_succ (Nat.le_succ_of_le hc))) (hs ▸ nofun) (by omega), hs]
      have hl : loop (f + kr + 2) minp l (.op o :: (pr (o.prec + 1) r ++ rest)) = loop f minp (.bin o l r) rest := by
        rw [loop, if_pos (Nat.le_trans hm hc), hr]
        exact monoL (by omega) h
      rw [body, List.append_assoc, List.cons_append,
        ihl o.prec minp _ (f + kr + 2) F (Nat.le_trans hm hc) (fun _ _ e => by cases e; exact Nat.lt_succ_self _)
          (hl ▸ h) (by omega), hl]
    refine ⟨kr + kl + 5, fun c minp rest f F hm hcond h hF => ?_⟩
    by_cases hp : o.prec < c
    · obtain ⟨F, rfl⟩ := Nat.exists_eq_add_of_le' (show 2 ≤ F by omega)
      have hin : parseE F 0 (body o l r ++ .rp :: rest) = .ok (.bin o l r) (.rp :: rest) :=
        hbody 0 0 (.rp :: rest) 1 F (Nat.le_refl _) (Nat.zero_le _) nofun nofun (by omega)
      rw [show pr c (.bin o l r) ++ rest = .lp :: (body o l r ++ .rp :: rest) by simp [pr, hp, body],
        parseE, parseAtom, hin]
      exact monoL (by omega) h
    · rw [show pr c (.bin o l r) = body o l r by simp [pr, hp, body]]
      exact hbody c minp rest f F hm (by omega) hcond h (by omega)

/-- Round trip: every tree, printed with minimal parentheses, parses back to itself. -/
theorem roundtrip (e : Expr) (rest : List Tok) (h : NoOp rest) :
    ∃ fuel, parseE fuel 0 (pr 0 e ++ rest) = .ok e rest := by
  obtain ⟨k, hk⟩ := climb e
  have hf : ∀ m, Fol m rest := fun m o ts e => (e ▸ h : NoOp (.op o :: ts)).elim
  have hs := loop_stop (hf 0) 0 e
  exact ⟨1 + k, hs ▸ hk 0 0 rest 1 _ (Nat.le_refl _) (hf 1) (hs ▸ nofun) (Nat.le_refl _)⟩

-- non-vacuity / sanity: a + b * c - d  with prec(+,-)=5, prec(*)=6
def plus : Op := ⟨0, 5⟩
def minus : Op := ⟨1, 5⟩
def times : Op := ⟨2, 6⟩
def ex1 : Expr := .bin minus (.bin plus (.leaf 1) (.bin times (.leaf 2) (.leaf 3))) (.leaf 4)
def ex2 : Expr := .bin times (.bin plus (.leaf 1) (.leaf 2)) (.bin minus (.leaf 3) (.bin minus (.leaf 4) (.leaf 5)))
example : parseE 50 0 (pr 0 ex1) = .ok ex1 [] := by decide
example : parseE 50 0 (pr 0 ex2) = .ok ex2 [] := by decide

end Climb

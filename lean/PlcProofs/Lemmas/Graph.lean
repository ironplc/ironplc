import PlcModel.Graph
import Mathlib.Data.Fintype.Card
import Mathlib.Logic.Relation
import Mathlib.Order.WellFounded
import Mathlib.Data.Set.Finite.Basic

/-! Kahn elimination decides cyclicity (C07); the answer depends on the nodes and edges as sets only (`cyclicExec_congr`, for C06). -/

open Relation

/-- the edge relation among `nodes` -/
def E (nodes : List Nat) (edges : Edges) (u v : Nat) : Prop := (u, v) ∈ edges ∧ u ∈ nodes ∧ v ∈ nodes

theorem hasIncoming_iff {alive : List Nat} {edges : Edges} {v : Nat} :
    hasIncoming alive edges v = true ↔ ∃ u ∈ alive, (u, v) ∈ edges := by
  simp only [hasIncoming, List.any_eq_true, Bool.and_eq_true, beq_iff_eq, List.contains_iff_mem]
  constructor
  · rintro ⟨⟨a, b⟩, hm, rfl, ha⟩
    exact ⟨a, ha, hm⟩
  · rintro ⟨u, hu, hm⟩
    exact ⟨(u, v), hm, rfl, hu⟩

/-- what elimination leaves are nodes of the start, and they are stuck: every remaining node has an
incoming edge from a remaining node -/
theorem elim_stuck (edges : Edges) : ∀ fuel alive, alive.length ≤ fuel →
    (∀ v ∈ elim fuel alive edges, v ∈ alive) ∧
    (∀ v ∈ elim fuel alive edges, hasIncoming (elim fuel alive edges) edges v = true) := by
  intro fuel
  induction fuel with
  | zero =>
    intro alive h
    have : alive = [] := List.eq_nil_of_length_eq_zero (Nat.le_zero.mp h)
    subst this; simp [elim]
  | succ fuel ih =>
    intro alive h
    simp only [elim]
    split
    · rename_i v hv
      have hmem : v ∈ alive := List.mem_of_find?_eq_some hv
      have hlen : (alive.filter (· != v)).length ≤ fuel :=
        Nat.le_of_lt_succ ((List.length_filter_lt_length_iff_exists.mpr ⟨v, hmem, by simp⟩).trans_le h)
      obtain ⟨h1, h2⟩ := ih _ hlen
      exact ⟨fun w hw => (List.mem_filter.mp (h1 w hw)).1, h2⟩
    · rename_i hnone
      refine ⟨fun v hv => hv, fun v hv => ?_⟩
      have := List.find?_eq_none.mp hnone v hv
      simpa using this

/-- nodes on a cycle are never eliminated -/
theorem elim_keeps_cyclic (nodes : List Nat) (edges : Edges) : ∀ fuel alive,
    (∀ v, TransGen (E nodes edges) v v → v ∈ alive) →
    ∀ v, TransGen (E nodes edges) v v → v ∈ elim fuel alive edges := by
  intro fuel
  induction fuel with
  | zero => exact fun _ h => h
  | succ fuel ih =>
    intro alive h
    simp only [elim]
    split
    · rename_i w hw
      refine ih _ fun x hx => List.mem_filter.mpr ⟨h x hx, ?_⟩
      simp only [bne_iff_ne, ne_eq]
      rintro rfl
      -- x is cyclic, so it has a cyclic predecessor, which is alive: x has an incoming edge
      have hno : hasIncoming alive edges x = false := by
        have := List.find?_some hw; simpa using this
      obtain ⟨u, hwu, hux⟩ := TransGen.tail'_iff.mp hx
      have hu_cyc : TransGen (E nodes edges) u u := TransGen.head' hux hwu
      have : hasIncoming alive edges x = true :=
        hasIncoming_iff.mpr ⟨u, h u hu_cyc, hux.1⟩
      rw [hno] at this; cases this
    · exact h

/-- a non-empty stuck set contains a cycle -/
theorem stuck_has_cycle (nodes S : List Nat) (edges : Edges) (hne : S ≠ [])
    (hsub : ∀ v ∈ S, v ∈ nodes)
    (hstuck : ∀ v ∈ S, hasIncoming S edges v = true) :
    ∃ v, TransGen (E nodes edges) v v := by
  by_contra hac
  -- relation on the finite subtype of members of S
  let R : {x // x ∈ S} → {x // x ∈ S} → Prop := fun a b => (a.1, b.1) ∈ edges
  have hlift : ∀ a b : {x // x ∈ S}, TransGen R a b → TransGen (E nodes edges) a.1 b.1 :=
    TransGen.lift Subtype.val fun a b h => ⟨h, hsub _ a.2, hsub _ b.2⟩
  have : Std.Irrefl (TransGen R) := ⟨fun a h => hac ⟨a.1, hlift a a h⟩⟩
  have wf : WellFounded (TransGen R) := Finite.wellFounded_of_trans_of_irrefl _
  obtain ⟨a, ha⟩ := List.exists_mem_of_ne_nil S hne
  obtain ⟨m, _, hmin⟩ := wf.has_min Set.univ ⟨⟨a, ha⟩, trivial⟩
  obtain ⟨u, hu, hum⟩ := hasIncoming_iff.mp (hstuck m.1 m.2)
  exact hmin ⟨u, hu⟩ trivial (TransGen.single hum)

theorem cyclicExec_iff (nodes : List Nat) (edges : Edges) :
    cyclicExec nodes edges = true ↔ ∃ v, TransGen (E nodes edges) v v := by
  obtain ⟨hsub, hstuck⟩ := elim_stuck edges nodes.length nodes (Nat.le_refl _)
  rw [cyclicExec, Bool.not_eq_true', List.isEmpty_eq_false_iff]
  constructor
  · exact fun hne => stuck_has_cycle nodes _ edges hne hsub hstuck
  · rintro ⟨v, hv⟩
    exact List.ne_nil_of_mem (elim_keeps_cyclic nodes edges nodes.length nodes
      (fun w hw => by rcases TransGen.head'_iff.mp hw with ⟨_, h, _⟩; exact h.2.1) v hv)

theorem cyclicExec_congr {nodes nodes' : List Nat} {edges edges' : Edges}
    (hn : ∀ v, v ∈ nodes ↔ v ∈ nodes') (he : ∀ e, e ∈ edges ↔ e ∈ edges') :
    cyclicExec nodes edges = cyclicExec nodes' edges' := by
  have : E nodes edges = E nodes' edges' := by funext u v; simp only [E, hn, he]
  rw [Bool.eq_iff_iff, cyclicExec_iff, cyclicExec_iff, this]

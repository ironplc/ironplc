import PlcProofs.Lemmas.MirrorExpr

/-!
# Round trip of the statement rules of the parser mirror

Continues `MirrorExpr.lean` one level up: `Parse.statement` / `statementList` / `statementsOrEmpty` and the rules
`ifStatement`, `caseStatement`, `forStatement`, `whileStatement`, `repeatStatement`, `fbInvocation` of
`PlcModel/Parse/Expr.lean` read the token list of every statement tree built from assignments to named variables,
IF … THEN … {ELSIF …} [ELSE …] END_IF, CASE … OF … [ELSE …] END_CASE (unsigned integer selectors),
FOR … TO … [BY …] DO … END_FOR, WHILE … DO … END_WHILE, REPEAT … UNTIL … END_REPEAT, function block invocations with
named inputs, EXIT and RETURN — nested to any depth, bodies of any length, conditions and right-hand sides any
expression of `MX.S` — back to exactly the tree the grammar actions build: every statement of every list, in order,
each body under the statement it was written in ("statement nesting" of C01).

How it is built: `St.Reads`, `Stl.Reads`, `Elifs.Reads`, `Groups.Reads` say that the rule for a statement, a statement list,
the ELSIF branches, the groups of a CASE reads the tokens of a well-formed tree back as its tree.  Every rule is run once on
the tokens of its kind of statement (`…_reads`: the statement `Reads` if the lists inside it do); `statement_kw` says which
rule `statement` takes; the mutual induction at the end only hands the induction hypotheses to these lemmas.
-/

open P Parse

namespace MX

/-! ### the syntax of statement token lists -/

mutual
  inductive St where
    | assign (name asg : Item) (e : S)
    | ifS (kIf kThen : Item) (c : S) (body : Stl) (elifs : Elifs) (kEnd : Item)
    | ifElse (kIf kThen : Item) (c : S) (body : Stl) (elifs : Elifs) (kElse : Item) (els : Stl) (kEnd : Item)
    | whileS (kWhile kDo : Item) (c : S) (body : Stl) (kEnd : Item)
    | repeatS (kRep : Item) (body : Stl) (kUntil : Item) (c : S) (kEnd : Item)
    /-- `FOR ctl := frm TO to [BY step] DO body END_FOR` -/
    | forS (kFor ctl asg : Item) (frm : S) (kTo : Item) (to : S) (step : Option (Item × S)) (kDo : Item) (body : Stl) (kEnd : Item)
    /-- `CASE sel OF groups [ELSE els] END_CASE` -/
    | caseS (kCase kOf : Item) (sel : S) (groups : Groups) (kEnd : Item)
    | caseElse (kCase kOf : Item) (sel : S) (groups : Groups) (kElse : Item) (els : Stl) (kEnd : Item)
    /-- `name(n1 := e1 {, n := e})`: a function block invocation with named inputs -/
    | callS (name lp n1 a1 : Item) (e1 : S) (more : List (Item × Item × Item × S)) (rp : Item)
    | exitS (k : Item)
    | returnS (k : Item)
  /-- statements, each followed by its semicolon -/
  inductive Stl where
    | nil
    | cons (s : St) (semi : Item) (rest : Stl)
  /-- `ELSIF c THEN body` branches -/
  inductive Elifs where
    | nil
    | cons (kElsif kThen : Item) (c : S) (body : Stl) (rest : Elifs)
  /-- `d {, d} : body` groups of a CASE; the selectors are unsigned integer literals (`v` their values) -/
  inductive Groups where
    | nil
    | cons (d : Item) (v : Nat) (more : List (Item × Item × Nat)) (colon : Item) (body : Stl) (rest : Groups)
end

/-- the tokens `, d` of the further selectors of a group -/
def selToks (more : List (Item × Item × Nat)) : List Item := more.flatMap fun m => [m.1, m.2.1]
/-- the tree of an unsigned integer selector -/
def selSx (v : Nat) : Sx := .t "SignedInteger" [sxSigned v false]
/-- the tokens `, n := e` of the further arguments of a call -/
def argToks (more : List (Item × Item × Item × S)) : List Item := more.flatMap fun m => m.1 :: m.2.1 :: m.2.2.1 :: m.2.2.2.toks
/-- the tree of a named input -/
def namedSx (n : Item) (e : S) : Sx := .t "NamedInput" [.n "NamedInput" [("name", .a (txt n)), ("expr", e.sx)]]
def argsNeed (more : List (Item × Item × Item × S)) : Nat := (more.map fun m => m.2.2.2.need + 1).sum

def groupSx (v : Nat) (more : List (Item × Item × Nat)) (body : List Sx) : Sx :=
  .n "CaseStatementGroup" [("selectors", .l (selSx v :: more.map fun m => selSx m.2.2)), ("statements", .l body)]

mutual
  def St.toks : St → List Item
    | .assign n a e => n :: a :: e.toks
    | .ifS kIf kThen c body elifs kEnd => kIf :: (c.toks ++ kThen :: (body.toks ++ (elifs.toks ++ [kEnd])))
    | .ifElse kIf kThen c body elifs kElse els kEnd => kIf :: (c.toks ++ kThen :: (body.toks ++ (elifs.toks ++ kElse :: (els.toks ++ [kEnd]))))
    | .whileS kW kDo c body kEnd => kW :: (c.toks ++ kDo :: (body.toks ++ [kEnd]))
    | .repeatS kR body kU c kEnd => kR :: (body.toks ++ kU :: (c.toks ++ [kEnd]))
    | .forS kFor ctl asg frm kTo to none kDo body kEnd =>
        kFor :: ctl :: asg :: (frm.toks ++ kTo :: (to.toks ++ kDo :: (body.toks ++ [kEnd])))
    | .forS kFor ctl asg frm kTo to (some (kBy, st)) kDo body kEnd =>
        kFor :: ctl :: asg :: (frm.toks ++ kTo :: (to.toks ++ kBy :: (st.toks ++ kDo :: (body.toks ++ [kEnd]))))
    | .caseS kCase kOf sel groups kEnd => kCase :: (sel.toks ++ kOf :: (groups.toks ++ [kEnd]))
    | .caseElse kCase kOf sel groups kElse els kEnd => kCase :: (sel.toks ++ kOf :: (groups.toks ++ kElse :: (els.toks ++ [kEnd])))
    | .callS name lp n1 a1 e1 more rp => name :: lp :: n1 :: a1 :: (e1.toks ++ (argToks more ++ [rp]))
    | .exitS k => [k]
    | .returnS k => [k]
  def Stl.toks : Stl → List Item
    | .nil => []
    | .cons s semi rest => s.toks ++ semi :: rest.toks
  def Elifs.toks : Elifs → List Item
    | .nil => []
    | .cons kE kT c body rest => kE :: (c.toks ++ kT :: (body.toks ++ rest.toks))
  def Groups.toks : Groups → List Item
    | .nil => []
    | .cons d _ more colon body rest => d :: (selToks more ++ colon :: (body.toks ++ rest.toks))
end

mutual
  /-- the tree the grammar actions build -/
  def St.sx : St → Sx
    | .assign n _ e => .t "Assignment" [.n "Assignment"
        [("target", .t "Symbolic" [.t "Named" [.n "NamedVariable" [("name", .a (txt n))]]]), ("value", e.sx)]]
    | .ifS _ _ c body elifs _ => .t "If" [.n "If" [("expr", c.sx), ("body", .l body.sxs), ("else_ifs", .l elifs.sxs), ("else_body", .l [])]]
    | .ifElse _ _ c body elifs _ els _ =>
        .t "If" [.n "If" [("expr", c.sx), ("body", .l body.sxs), ("else_ifs", .l elifs.sxs), ("else_body", .l els.sxs)]]
    | .whileS _ _ c body _ => .t "While" [.n "While" [("condition", c.sx), ("body", .l body.sxs)]]
    | .repeatS _ body _ c _ => .t "Repeat" [.n "Repeat" [("until", c.sx), ("body", .l body.sxs)]]
    | .forS _ ctl _ frm _ to step _ body _ =>
        .t "For" [.n "For" [("control", .a (txt ctl)), ("from", frm.sx), ("to", to.sx),
                            ("step", Sx.opt (step.map fun p => p.2.sx)), ("body", .l body.sxs)]]
    | .caseS _ _ sel groups _ =>
        .t "Case" [.n "Case" [("selector", sel.sx), ("statement_groups", .l groups.sxs), ("else_body", .l [])]]
    | .caseElse _ _ sel groups _ els _ =>
        .t "Case" [.n "Case" [("selector", sel.sx), ("statement_groups", .l groups.sxs), ("else_body", .l els.sxs)]]
    | .callS name _ n1 _ e1 more _ =>
        .t "FbCall" [.n "FbCall" [("var_name", .a (txt name)), ("params", .l (namedSx n1 e1 :: more.map fun m => namedSx m.2.1 m.2.2.2))]]
    | .exitS _ => .a "Exit"
    | .returnS _ => .a "Return"
  def Stl.sxs : Stl → List Sx
    | .nil => []
    | .cons s _ rest => s.sx :: rest.sxs
  def Elifs.sxs : Elifs → List Sx
    | .nil => []
    | .cons _ _ c body rest => .n "ElseIf" [("expr", c.sx), ("body", .l body.sxs)] :: rest.sxs
  def Groups.sxs : Groups → List Sx
    | .nil => []
    | .cons _ v more _ body rest => groupSx v more body.sxs :: rest.sxs
end

def Stl.isNil : Stl → Bool
  | .nil => true
  | _ => false

mutual
  def St.WF : St → Prop
    | .assign n a e => n.ty = "Identifier" ∧ a.ty = "Assignment" ∧ e.WF 0
    | .ifS kIf kThen c body elifs kEnd => kIf.ty = "If" ∧ kThen.ty = "Then" ∧ kEnd.ty = "EndIf" ∧ c.WF 0 ∧ body.WF ∧ elifs.WF
    | .ifElse kIf kThen c body elifs kElse els kEnd =>
        kIf.ty = "If" ∧ kThen.ty = "Then" ∧ kElse.ty = "Else" ∧ kEnd.ty = "EndIf" ∧ c.WF 0 ∧ body.WF ∧ els.WF ∧ els.isNil = false ∧ elifs.WF
    | .whileS kW kDo c body kEnd => kW.ty = "While" ∧ kDo.ty = "Do" ∧ kEnd.ty = "EndWhile" ∧ c.WF 0 ∧ body.WF ∧ body.isNil = false
    | .repeatS kR body kU c kEnd => kR.ty = "Repeat" ∧ kU.ty = "Until" ∧ kEnd.ty = "EndRepeat" ∧ c.WF 0 ∧ body.WF ∧ body.isNil = false
    | .forS kFor ctl asg frm kTo to step kDo body kEnd =>
        kFor.ty = "For" ∧ ctl.ty = "Identifier" ∧ asg.ty = "Assignment" ∧ kTo.ty = "To" ∧ kDo.ty = "Do" ∧ kEnd.ty = "EndFor" ∧
        frm.WF 0 ∧ to.WF 0 ∧ body.WF ∧ body.isNil = false ∧
        (match step with | none => True | some (kBy, st) => kBy.ty = "By" ∧ st.WF 0)
    | .caseS kCase kOf sel groups kEnd => kCase.ty = "Case" ∧ kOf.ty = "Of" ∧ kEnd.ty = "EndCase" ∧ sel.WF 0 ∧ groups.WF
    | .caseElse kCase kOf sel groups kElse els kEnd =>
        kCase.ty = "Case" ∧ kOf.ty = "Of" ∧ kElse.ty = "Else" ∧ kEnd.ty = "EndCase" ∧ sel.WF 0 ∧ groups.WF ∧ els.WF ∧ els.isNil = false
    | .callS name lp n1 a1 e1 more rp =>
        name.ty = "Identifier" ∧ lp.ty = "LeftParen" ∧ rp.ty = "RightParen" ∧ n1.ty = "Identifier" ∧ a1.ty = "Assignment" ∧ e1.WF 0 ∧
        ∀ m ∈ more, m.1.ty = "Comma" ∧ m.2.1.ty = "Identifier" ∧ m.2.2.1.ty = "Assignment" ∧ m.2.2.2.WF 0
    | .exitS k => k.ty = "Exit"
    | .returnS k => k.ty = "Return"
  def Stl.WF : Stl → Prop
    | .nil => True
    | .cons s semi rest => s.WF ∧ semi.ty = "Semicolon" ∧ rest.WF
  def Elifs.WF : Elifs → Prop
    | .nil => True
    | .cons kE kT c body rest => kE.ty = "Elsif" ∧ kT.ty = "Then" ∧ c.WF 0 ∧ body.WF ∧ body.isNil = false ∧ rest.WF
  def Groups.WF : Groups → Prop
    | .nil => True
    | .cons d v more colon body rest =>
        d.ty = "Digits" ∧ integerNew d.text = some v ∧
        (∀ m ∈ more, m.1.ty = "Comma" ∧ m.2.1.ty = "Digits" ∧ integerNew m.2.1.text = some m.2.2) ∧
        colon.ty = "Colon" ∧ body.WF ∧ body.isNil = false ∧ rest.WF
end

mutual
  /-- fuel that suffices for `statement`: its expressions and lists, and for the levels in between (`statement`, the rule,
  `statementList`, `statementsOrEmpty`) constants that are not tight -/
  def St.need : St → Nat
    | .assign _ _ e => e.need + 4
    | .ifS _ _ c body elifs _ => c.need + body.need + elifs.need + 8
    | .ifElse _ _ c body elifs _ els _ => c.need + body.need + elifs.need + els.need + 8
    | .whileS _ _ c body _ => c.need + body.need + 8
    | .repeatS _ body _ c _ => c.need + body.need + 8
    | .forS _ _ _ frm _ to step _ body _ => frm.need + to.need + (match step with | none => 0 | some (_, st) => st.need) + body.need + 8
    | .caseS _ _ sel groups _ => sel.need + groups.need + 8
    | .caseElse _ _ sel groups _ els _ => sel.need + groups.need + els.need + 8
    | .callS _ _ _ _ e1 more _ => e1.need + argsNeed more + 8
    | .exitS _ => 1
    | .returnS _ => 1
  def Stl.need : Stl → Nat
    | .nil => 0
    | .cons s _ rest => s.need + rest.need
  def Elifs.need : Elifs → Nat
    | .nil => 0
    | .cons _ _ c body rest => c.need + body.need + rest.need + 4
  def Groups.need : Groups → Nat
    | .nil => 0
    | .cons _ _ _ _ body rest => body.need + rest.need
end

/-! ### what comes next: the keywords that end a statement list, the tokens that follow an expression inside a statement,
the tokens a statement starts with -/

/-- what may come after a statement list: the keywords that close one, and `Digits`, since inside a CASE the selector of
the next group comes after the statements of a group -/
def isCloser (ty : String) : Bool :=
  ty == "EndIf" || ty == "Else" || ty == "Elsif" || ty == "EndWhile" || ty == "Until" || ty == "EndRepeat" ||
  ty == "EndProgram" || ty == "EndFunctionBlock" || ty == "EndFunction" || ty == "EndFor" || ty == "EndCase" ||
  ty == "EndAction" || ty == "EndTransition" || ty == "Digits"

theorem closer_not_trivia {K : Item} (hK : isCloser K.ty = true) : isTrivia K.ty = false :=
  isTrivia_eq_false (not_mem_of_class hK (by decide))

/-- a token that closes a statement list comes next -/
def Closes (T : List Item) : Prop := ∃ K R, T = K :: R ∧ isCloser K.ty = true

theorem Closes.of {K : Item} {R : List Item} (hK : isCloser K.ty = true) : Closes (K :: R) := ⟨K, R, rfl, hK⟩

/-- `s` is a literal at every call.  The default proof turns `==` into `=` before it compares: the kernel checks the proofs
`String.reduceEq` gives far faster than those of `String.reduceBEq`. -/
theorem closer_kw {K : Item} {s : String} (h : K.ty = s)
    (hs : isCloser s = true := by simp only [isCloser, Bool.or_eq_true, beq_iff_eq, String.reduceEq, or_true, true_or, false_or]) :
    isCloser K.ty = true := h ▸ hs

theorem Closes.ws_id {T : List Item} (h : Closes T) : ws T = some ((), T) := by
  obtain ⟨K, R, rfl, hK⟩ := h
  exact ws_cons (closer_not_trivia hK)

/-- the keywords and separators of the statement rules that follow an expression -/
theorem ends_kw {t : Item} {ts : List Item} {s : String} (h : t.ty = s)
    (hs : s ∈ ["Then", "Do", "To", "By", "Of", "EndRepeat", "Semicolon", "Comma", "RightParen"] := by simp) : Ends (t :: ts) := by
  have : ∀ s ∈ ["Then", "Do", "To", "By", "Of", "EndRepeat", "Semicolon", "Comma", "RightParen"],
      okNext s = true ∧ ∀ row ∈ Gen.prec, s ≠ row.token := by decide
  intro u us hu
  cases hu
  exact h ▸ this s hs

/-- the token types a statement starts with -/
def stmtStart : List String := ["Identifier", "If", "While", "Repeat", "For", "Case", "Exit", "Return"]

theorem St.head (s : St) (h : s.WF) : ∃ t ts, s.toks = t :: ts ∧ t.ty ∈ stmtStart := by
  cases s with
  | forS kFor ctl asg frm kTo to step kDo body kEnd =>
    cases step with
    | none => exact ⟨kFor, _, rfl, by simp [h.1, stmtStart]⟩
    | some p => exact ⟨kFor, _, rfl, by simp [h.1, stmtStart]⟩
  | exitS k => exact ⟨k, _, rfl, by simp [show k.ty = "Exit" from h, stmtStart]⟩
  | returnS k => exact ⟨k, _, rfl, by simp [show k.ty = "Return" from h, stmtStart]⟩
  | _ => exact ⟨_, _, rfl, by simp [h.1, stmtStart]⟩

theorem start_not_trivia {t : Item} (ht : t.ty ∈ stmtStart) : isTrivia t.ty = false :=
  not_trivia_of t _ ht (by simp [stmtStart, isTrivia_eq_false])

theorem St.ws_toks {s : St} (h : s.WF) {R : List Item} : ws (s.toks ++ R) = some ((), s.toks ++ R) := by
  obtain ⟨t, ts, hts, hstart⟩ := St.head s h
  rw [hts]
  exact ws_cons (start_not_trivia hstart)

theorem Closes.ws_stl {T : List Item} (h : Closes T) {l : Stl} (hl : l.WF) : ws (l.toks ++ T) = some ((), l.toks ++ T) := by
  cases l with
  | nil => exact h.ws_id
  | cons s semi rest =>
    simp only [Stl.toks, List.append_assoc]
    exact St.ws_toks hl.1

/-! ### `statement`: the rule is chosen by the first token -/

/-- the assignment alternative of `statement` -/
def assignP (g : Nat) : P Sx := do
  let v ← variableP g; ws; let _ ← tok "Assignment"; ws; let e ← expression g
  pure (.t "Assignment" [.n "Assignment" [("target", v), ("value", e)]])

theorem first_assignP (g : Nat) : First ["DirectAddress", "Identifier"] (assignP g) := (first_variableP g).bind _

theorem first_ifStatement : ∀ g, First ["If"] (ifStatement g)
  | 0 => by rw [ifStatement]; exact .fail
  | g + 1 => by rw [ifStatement]; exact (First.tok _).bind _

theorem first_caseStatement : ∀ g, First ["Case"] (caseStatement g)
  | 0 => by rw [caseStatement]; exact .fail
  | g + 1 => by rw [caseStatement]; exact (First.tok _).bind _

theorem first_forStatement : ∀ g, First ["For"] (forStatement g)
  | 0 => by rw [forStatement]; exact .fail
  | g + 1 => by rw [forStatement]; exact (First.tok _).bind _

theorem first_whileStatement : ∀ g, First ["While"] (whileStatement g)
  | 0 => by rw [whileStatement]; exact .fail
  | g + 1 => by rw [whileStatement]; exact (First.tok _).bind _

theorem first_repeatStatement : ∀ g, First ["Repeat"] (repeatStatement g)
  | 0 => by rw [repeatStatement]; exact .fail
  | g + 1 => by rw [repeatStatement]; exact (First.tok _).bind _

theorem first_fbInvocation : ∀ g, First ["Identifier"] (fbInvocation g)
  | 0 => by rw [fbInvocation]; exact .fail
  | g + 1 => by rw [fbInvocation]; exact first_identifier.bind _

/-- the rule of `statement` that a first token of type `ty` selects, once the assignment alternative has failed -/
def ruleOf (g : Nat) (ty : String) : P Sx :=
  if ty = "If" then ifStatement g else if ty = "Case" then caseStatement g else if ty = "For" then forStatement g
  else if ty = "While" then whileStatement g else if ty = "Repeat" then repeatStatement g
  else if ty = "Exit" then (do let _ ← tok "Exit"; pure (.a "Exit")) else if ty = "Identifier" then fbInvocation g
  else if ty = "Return" then (do let _ ← tok "Return"; pure (.a "Return")) else fail

/-- the alternatives of `statement` behind the assignment -/
theorem statement_rules (g : Nat) : Decides ["If", "Case", "For", "While", "Repeat", "Exit", "Identifier", "Return"] (ruleOf g)
    (ifStatement g <|> caseStatement g <|> forStatement g <|> whileStatement g <|> repeatStatement g
      <|> (do let _ ← tok "Exit"; pure (.a "Exit")) <|> fbInvocation g <|> (do let _ ← tok "Return"; pure (.a "Return"))) :=
  .cons (first_ifStatement g) (.cons (first_caseStatement g) (.cons (first_forStatement g) (.cons (first_whileStatement g)
    (.cons (first_repeatStatement g) (.cons ((First.tok _).bind _) (.cons (first_fbInvocation g) (.last ((First.tok _).bind _))
      (by simp)) (by simp)) (by simp)) (by simp)) (by simp)) (by simp)) (by simp)

theorem statement_cons {g : Nat} {t : Item} {ts : List Item} (ha : assignP g (t :: ts) = none) :
    statement (g + 1) (t :: ts) = ruleOf g t.ty (t :: ts) := by
  rw [statement]
  exact (orElse_none ha).trans ((statement_rules g).run t ts)

/-- `statement` on a keyword that starts a statement: the rule `r` of that keyword, which the default tactic computes
from `ruleOf` -/
theorem statement_kw {g : Nat} {t : Item} {ts : List Item} {s : String} {r : P Sx} (h : t.ty = s)
    (hr : ruleOf g s = r := by simp only [ruleOf, String.reduceEq, if_false, if_true] <;> rfl)
    (hs : s ∉ ["DirectAddress", "Identifier"] := by simp) : statement (g + 1) (t :: ts) = r (t :: ts) := by
  rw [statement_cons ((first_assignP g).cons (h ▸ hs)), h, hr]

theorem first_statement : ∀ g,
    First ["DirectAddress", "Identifier", "If", "Case", "For", "While", "Repeat", "Exit", "Identifier", "Return"] (statement g)
  | 0 => by rw [statement]; exact .fail
  | g + 1 => by rw [statement]; exact (first_assignP g).orElse (statement_rules g).first

theorem statement_none_closer {g : Nat} {K : Item} {R : List Item} (hK : isCloser K.ty = true) : statement g (K :: R) = none :=
  (first_statement g).cons (not_mem_of_class hK (by decide))

/-! ### statement lists -/

theorem statementsOrEmpty_none_closer {g : Nat} {K : Item} {R : List Item} (hK : isCloser K.ty = true) :
    statementsOrEmpty g (K :: R) = none := by
  cases g with
  | zero => rw [statementsOrEmpty]; rfl
  | succ g =>
    have hws : ws (K :: R) = some ((), K :: R) := ws_cons (closer_not_trivia hK)
    have hsemi : semicolon (K :: R) = none := semicolon_miss fun e => by  -- compared as propositions, as in `closer_kw`
      simp only [e, isCloser, Bool.or_eq_true, beq_iff_eq, String.reduceEq, or_self] at hK
    rw [statementsOrEmpty, orElse_none (by rw [bind_some hws]; exact bind_none hsemi)]
    unfold semisep
    rw [bind_some (sepBy_of_none (statement_none_closer hK)), bind_some hws]
    exact bind_none hsemi

theorem statementList_none_closer {g : Nat} {K : Item} {R : List Item} (hK : isCloser K.ty = true) :
    statementList g (K :: R) = none := by
  cases g with
  | zero => rw [statementList]; rfl
  | succ g =>
    rw [statementList]
    unfold many1
    exact bind_none (bind_none (statementsOrEmpty_none_closer hK))

/-- `;` then a statement: what `semisep` repeats -/
def sepStmt (g : Nat) : P Sx := (do let _ ← (do ws; semicolon; ws : P Unit); statement g)

/-- the segments `; statement` of a list, given the semicolon that precedes it -/
def chainOf (prev : Item) : Stl → List (Sx × List Item)
  | .nil => []
  | .cons s semi rest => (s.sx, prev :: s.toks) :: chainOf semi rest

def lastSemi (prev : Item) : Stl → Item
  | .nil => prev
  | .cons _ semi rest => lastSemi semi rest

theorem flat_chainOf : (l : Stl) → ∀ (prev : Item) (T : List Item),
    flat (chainOf prev l) ++ lastSemi prev l :: T = prev :: (l.toks ++ T)
  | .nil, _, _ => rfl
  | .cons s semi rest, prev, T => by
    simp [Stl.toks, chainOf, lastSemi, flat_cons, flat_chainOf rest semi T]

theorem map_chainOf : (l : Stl) → ∀ prev, (chainOf prev l).map (·.1) = l.sxs
  | .nil, _ => rfl
  | .cons _ semi rest, _ => by simp only [chainOf, List.map_cons, Stl.sxs, map_chainOf rest semi]

theorem lastSemi_ty : (l : Stl) → ∀ prev, prev.ty = "Semicolon" → l.WF → (lastSemi prev l).ty = "Semicolon"
  | .nil, _, h, _ => h
  | .cons _ semi rest, _, _, hwf => lastSemi_ty rest semi hwf.2.1 hwf.2.2

theorem sepStmt_none_closer {g : Nat} {prev K : Item} {R : List Item} (hprev : prev.ty = "Semicolon") (hK : isCloser K.ty = true) :
    sepStmt g (prev :: K :: R) = none := by
  unfold sepStmt
  rw [bind_some (sepSemi_reads hprev (ws_cons (closer_not_trivia hK)))]
  exact statement_none_closer hK

theorem sepStmt_reads {g : Nat} {prev : Item} {s : St} {U : List Item} (hprev : prev.ty = "Semicolon") (hs : s.WF)
    (h : statement g (s.toks ++ U) = some (s.sx, U)) : sepStmt g (prev :: (s.toks ++ U)) = some (s.sx, U) := by
  unfold sepStmt
  rw [bind_some (sepSemi_reads hprev (St.ws_toks hs))]
  exact h

/-- `statement_list()` on `s ; rest… ;` followed by a closing keyword -/
theorem statementList_reads {g : Nat} {s : St} {semi K : Item} {rest : Stl} {R : List Item}
    (hs : s.WF) (hsemi : semi.ty = "Semicolon") (hrest : rest.WF) (hK : isCloser K.ty = true)
    (hfirst : statement g (s.toks ++ semi :: (rest.toks ++ K :: R)) = some (s.sx, semi :: (rest.toks ++ K :: R)))
    (hchain : Chain (sepStmt g) (chainOf semi rest) (lastSemi semi rest :: K :: R)) :
    statementList (g + 2) ((Stl.cons s semi rest).toks ++ K :: R) = some ((Stl.cons s semi rest).sxs, K :: R) := by
  obtain ⟨t, ts, hts, hstart⟩ := St.head s hs
  have hmany := many_chain hchain
  rw [flat_chainOf, map_chainOf] at hmany
  have hso : statementsOrEmpty (g + 1) (s.toks ++ semi :: (rest.toks ++ K :: R)) = some (s.sx :: rest.sxs, K :: R) := by
    rw [statementsOrEmpty, orElse_none, semisep_of_many hfirst hmany (lastSemi_ty rest semi hsemi hrest)]
    -- a statement stands here, no `;`
    rw [bind_some (St.ws_toks hs), hts]
    exact bind_none (semicolon_miss fun e => by simp [e, stmtStart] at hstart)
  simp only [Stl.toks, List.append_assoc, List.cons_append]
  rw [statementList, bind_some (many1_cons hso (many_none (statementsOrEmpty_none_closer hK)))]
  simp [pure_run, Stl.sxs]

/-- `statementList` with enough fuel reads a well-formed, non-empty `l` in front of a token that closes it.  The fuel is `g + 2`
with `g` what the statements need: `statementList` hands `statement` its own fuel less two. -/
def Stl.Reads (l : Stl) : Prop :=
  l.WF → l.isNil = false → ∀ g T, l.need ≤ g → Closes T → statementList (g + 2) (l.toks ++ T) = some (l.sxs, T)

/-- `statement` with enough fuel reads a well-formed `s` in front of anything that ends an expression (an assignment ends in
one; the other kinds end in a keyword or `)` and read whatever follows) -/
def St.Reads (s : St) : Prop :=
  s.WF → ∀ F R, s.need ≤ F → Ends R → statement F (s.toks ++ R) = some (s.sx, R)

/-- an optional statement list (the body of an IF may be empty) -/
theorem opt_stl_reads {l : Stl} {g : Nat} {T : List Item} (hr : l.Reads) (hl : l.WF) (hg : l.need ≤ g) (hT : Closes T) :
    ∃ ob : Option (List Sx), P.opt (statementList (g + 2)) (l.toks ++ T) = some (ob, T) ∧ ob.getD [] = l.sxs := by
  cases l with
  | nil =>
    obtain ⟨K, R, rfl, hK⟩ := hT
    exact ⟨none, opt_none (statementList_none_closer hK), rfl⟩
  | cons s semi rest => exact ⟨some _, opt_some (hr hl rfl g T hg hT), rfl⟩

/-- fuel that covers `n` and `k` levels above it is `g + k` with `g` covering `n` -/
theorem fuel_eq {n F : Nat} (k : Nat) (h : n + k ≤ F) : ∃ g, F = g + k ∧ n ≤ g :=
  let ⟨g, hg⟩ := Nat.exists_eq_add_of_le' (Nat.le_trans (Nat.le_add_left k n) h)
  ⟨g, hg, Nat.le_of_add_le_add_right (hg ▸ h)⟩

/-! ### the kinds of statement, one at a time: `statement` reads each, given that the lists in it are read

#### assignment -/

/-- a plain name in front of anything that starts no selector is a named variable -/
theorem variableP_name {g : Nat} {n a : Item} {R : List Item} (hn : n.ty = "Identifier")
    (hws : ws (a :: R) = some ((), a :: R)) (hP : a.ty ≠ "Period") (hB : a.ty ≠ "LeftBracket") :
    variableP (g + 2) (n :: a :: R) =
      some (.t "Symbolic" [.t "Named" [.n "NamedVariable" [("name", .a (txt n))]]], a :: R) := by
  have hsub : subscriptList g (a :: R) = none := by
    cases g with
    | zero => rw [subscriptList]; rfl
    | succ g => rw [subscriptList]; exact bind_none (tok_miss hB)
  have hsel : ((do ws; let _ ← tok "Period"; ws; let id ← identifier; pure (Sum.inl id))
      <|> (do ws; let s ← subscriptList g; pure (Sum.inr s)) : P (Sum Sx (List Sx))) (a :: R) = none := by
    rw [orElse_none (by rw [bind_some hws]; exact bind_none (tok_miss hP)), bind_some hws]
    exact bind_none hsub
  have hsym : symbolicVariable (g + 1) (n :: a :: R) =
      some (.t "Named" [.n "NamedVariable" [("name", .a (txt n))]], a :: R) := by
    rw [symbolicVariable, bind_some (identifier_hit hn), bind_some (many_none hsel)]
    rfl
  rw [variableP, directVariable, orElse_none (bind_none (bind_none (tok_miss (by simp [hn])))), bind_some hsym]
  rfl

theorem assign_reads {n a : Item} {e : S} : (St.assign n a e).Reads := by
  rintro ⟨hn, ha, he⟩ F R hF hR
  obtain ⟨g, rfl, hg⟩ := fuel_eq 3 hF
  show statement (g + 2 + 1) (n :: a :: (e.toks ++ R)) = _
  rw [statement]
  apply orElse_some
  rw [bind_some (variableP_name hn (ws_hd ha) (by simp [ha]) (by simp [ha])), bind_some (ws_hd ha), bind_some (tok_hit ha),
    bind_some (ws_toks he), bind_some (expression_reads he hR (Nat.le_add_right_of_le hg))]
  rfl

/-! #### IF -/

/-- one `ELSIF c THEN body` branch, as written inside `ifStatement` -/
def elsifP (g : Nat) : P Sx := do
  let _ ← tok "Elsif"; ws; let e ← expression g; ws; let _ ← tok "Then"; ws
  let b ← statementList g
  pure (Sx.n "ElseIf" [("expr", e), ("body", .l b)])

theorem elsifP_reads {g : Nat} {kE kT : Item} {c : S} {body : Stl} {T : List Item}
    (hE : kE.ty = "Elsif") (hT : kT.ty = "Then") (hc : c.WF 0) (hg : c.need + 1 ≤ g) (hb : body.WF) (hC : Closes T)
    (hl : statementList g (body.toks ++ T) = some (body.sxs, T)) :
    elsifP g ((kE :: (c.toks ++ kT :: body.toks)) ++ T) = some (.n "ElseIf" [("expr", c.sx), ("body", .l body.sxs)], T) := by
  have hThen := ends_kw (ts := body.toks ++ T) hT
  simp only [List.cons_append, List.append_assoc]
  unfold elsifP
  rw [bind_some (tok_hit hE), bind_some (ws_toks hc), bind_some (expression_reads hc hThen hg), bind_some hThen.ws_id,
    bind_some (tok_hit hT), bind_some (hC.ws_stl hb), bind_some hl]
  rfl

/-- the optional `ELSE stmts` of IF and CASE -/
theorem else_none {g : Nat} {K : Item} {R : List Item} (h : K.ty ≠ "Else") :
    P.opt (do let _ ← tok "Else"; ws; statementList g) (K :: R) = some (none, K :: R) :=
  opt_none (bind_none (tok_miss h))

theorem else_some {g : Nat} {kElse kEnd : Item} {els : Stl} {R : List Item} (hr : els.Reads) (hE : kElse.ty = "Else") (hwf : els.WF)
    (hne : els.isNil = false) (hg : els.need ≤ g) (hK : isCloser kEnd.ty = true) :
    P.opt (do let _ ← tok "Else"; ws; statementList (g + 2)) (kElse :: (els.toks ++ kEnd :: R)) = some (some els.sxs, kEnd :: R) :=
  opt_some (by rw [bind_some (tok_hit hE), bind_some ((Closes.of hK).ws_stl hwf)]; exact hr hwf hne g _ hg (.of hK))

/-- the `ELSIF` branches as segments of a `ChainW` -/
def segsE : Elifs → List (Sx × List Item)
  | .nil => []
  | .cons kE kT c body rest =>
      (.n "ElseIf" [("expr", c.sx), ("body", .l body.sxs)], kE :: (c.toks ++ kT :: body.toks)) :: segsE rest

theorem flat_segsE : (e : Elifs) → flat (segsE e) = e.toks
  | .nil => rfl
  | .cons kE kT c body rest => by simp [segsE, flat_cons, Elifs.toks, flat_segsE rest]

theorem map_segsE : (e : Elifs) → (segsE e).map (·.1) = e.sxs
  | .nil => rfl
  | .cons kE kT c body rest => by simp only [segsE, List.map_cons, Elifs.sxs, map_segsE rest]

/-- the ELSIF branches are read one after the other, in front of any other closing keyword -/
def Elifs.Reads (e : Elifs) : Prop :=
  e.WF → ∀ g K R, isCloser K.ty = true → K.ty ≠ "Elsif" → e.need ≤ g → ChainW (elsifP (g + 2)) (segsE e) (K :: R)

theorem closes_elifs {e : Elifs} (he : e.WF) {T : List Item} (hT : Closes T) : Closes (e.toks ++ T) := by
  cases e with
  | nil => exact hT
  | cons kE kT c body rest => exact .of (closer_kw he.1)

/-- `IF c THEN body {ELSIF ..} [ELSE ..] END_IF`: `K :: U` is what follows the ELSIF branches, ELSE or END_IF, and `he` says
what the optional ELSE is read as -/
theorem if_reads {g : Nat} {kIf kThen kEnd K : Item} {c : S} {body : Stl} {elifs : Elifs} {U R : List Item} {oe : Option (List Sx)}
    (hb : body.Reads) (hx : elifs.Reads) (hIf : kIf.ty = "If") (hThen : kThen.ty = "Then") (hEnd : kEnd.ty = "EndIf")
    (hc : c.WF 0) (hbw : body.WF) (hxw : elifs.WF) (hg : c.need + body.need + elifs.need + 4 ≤ g)
    (hK : isCloser K.ty = true) (hKE : K.ty ≠ "Elsif")
    (he : P.opt (do let _ ← tok "Else"; ws; statementList (g + 2)) (K :: U) = some (oe, kEnd :: R)) :
    statement (g + 4) (kIf :: (c.toks ++ kThen :: (body.toks ++ (elifs.toks ++ K :: U)))) =
      some (.t "If" [.n "If" [("expr", c.sx), ("body", .l body.sxs), ("else_ifs", .l elifs.sxs), ("else_body", .l (oe.getD []))]], R) := by
  have hT := ends_kw (ts := body.toks ++ (elifs.toks ++ K :: U)) hThen
  have hKU : Closes (K :: U) := .of hK
  have hC := closes_elifs hxw hKU
  obtain ⟨ob, hob, hget⟩ := opt_stl_reads (g := g) hb hbw (by omega) hC
  have hxs := sepBy_chainW (hx hxw g K U hK hKE (by omega))
  rw [flat_segsE, map_segsE] at hxs
  unfold elsifP at hxs
  rw [statement_kw hIf, ifStatement, bind_some (tok_hit hIf), bind_some (ws_toks hc), bind_some (expression_reads hc hT (by omega)),
    bind_some hT.ws_id, bind_some (tok_hit hThen), bind_some (hC.ws_stl hbw), bind_some hob, bind_some hC.ws_id, bind_some hxs,
    bind_some hKU.ws_id, bind_some he, bind_some (ws_hd hEnd), bind_some (tok_hit hEnd), hget]
  rfl

theorem ifS_reads {kIf kThen kEnd : Item} {c : S} {body : Stl} {elifs : Elifs} (hb : body.Reads) (hx : elifs.Reads) :
    (St.ifS kIf kThen c body elifs kEnd).Reads := by
  rintro ⟨hIf, hThen, hEnd, hc, hl, he⟩ F R hF _
  obtain ⟨g, rfl, hg⟩ := fuel_eq 4 hF
  simp only [St.toks, List.cons_append, List.append_assoc, List.nil_append]
  exact if_reads hb hx hIf hThen hEnd hc hl he hg (closer_kw hEnd) (by simp [hEnd]) (else_none (by simp [hEnd]))

theorem ifElse_reads {kIf kThen kElse kEnd : Item} {c : S} {body els : Stl} {elifs : Elifs} (hb : body.Reads) (hels : els.Reads) (hx : elifs.Reads) :
    (St.ifElse kIf kThen c body elifs kElse els kEnd).Reads := by
  rintro ⟨hIf, hThen, hElse, hEnd, hc, hl, hle, hne, he⟩ F R hF _
  obtain ⟨g, rfl, hg⟩ := fuel_eq 4 hF
  simp only [St.toks, List.cons_append, List.append_assoc, List.nil_append]
  exact if_reads hb hx hIf hThen hEnd hc hl he (by omega) (closer_kw hElse) (by simp [hElse])
    (else_some hels hElse hle hne (by omega) (closer_kw hEnd))

/-! #### CASE -/

/-- what may follow a selector: no layout and no `..` (it is `,` or `:`) -/
def SelEnds (R : List Item) : Prop := ∃ n R', R = n :: R' ∧ isTrivia n.ty = false ∧ n.ty ≠ "Range"

/-- an unsigned integer in front of `,` or `:` is a selector: not a subrange, a signed integer -/
theorem caseListElement_digits {d : Item} {R : List Item} {v : Nat} (hd : d.ty = "Digits") (hv : integerNew d.text = some v)
    (hR : SelEnds R) : caseListElement (d :: R) = some (selSx v, R) := by
  obtain ⟨n, R, rfl, hn, hr⟩ := hR
  have hs := signedInteger_digits (ts := n :: R) hd hv
  rw [caseListElement, subrange,
    orElse_none (bind_none (by rw [bind_some hs, bind_some (ws_cons hn)]; exact bind_none (tok_miss hr)))]
  apply orElse_some
  rw [bind_some hs]
  rfl

theorem first_signedInteger : First ["Plus", "Digits", "Minus"] signedInteger :=
  (((First.tok _).bind _).opt_bind fun _ => ((First.tok _).bind _).bind _).orElse ((First.tok _).bind _)

theorem first_caseListElement :
    First ["Plus", "Digits", "Minus", "Plus", "Digits", "Minus", "Identifier", "Identifier"] caseListElement :=
  ((first_signedInteger.bind _).bind _).orElse ((first_signedInteger.bind _).orElse
    ((((first_identifier.bind _).bind _).opt_bind fun _ => first_identifier.bind _).bind _))

/-- one group `d {, d} : body` of a CASE, as written inside `caseStatement` -/
def caseGroupP (g : Nat) : P Sx := do
  let sels ← sepBy1 caseListElement (do ws; comma; ws)
  ws; let _ ← tok "Colon"; ws
  let b ← statementList g
  pure (Sx.n "CaseStatementGroup" [("selectors", .l sels), ("statements", .l b)])

theorem caseGroupP_reads {g : Nat} {d : Item} {v : Nat} {more : List (Item × Item × Nat)} {colon : Item} {body : Stl} {T : List Item}
    (hd : d.ty = "Digits") (hv : integerNew d.text = some v)
    (hm : ∀ m ∈ more, m.1.ty = "Comma" ∧ m.2.1.ty = "Digits" ∧ integerNew m.2.1.text = some m.2.2) (hc : colon.ty = "Colon")
    (hb : body.WF) (hT : Closes T) (hl : statementList g (body.toks ++ T) = some (body.sxs, T)) :
    caseGroupP g ((d :: (selToks more ++ colon :: body.toks)) ++ T) = some (groupSx v more body.sxs, T) := by
  simp only [List.cons_append, List.append_assoc]
  unfold selToks
  -- after a selector comes `,` or `:`
  obtain ⟨hfol, hmany⟩ := many_comma (p := caseListElement) (·.1) (·.2.1) (fun _ => []) (fun m => selSx m.2.2) SelEnds
    (fun c R h => ⟨c, R, rfl, isTrivia_eq_false (by simp [h]), by simp [h]⟩) (K := colon) (T := body.toks ++ T)
    ⟨_, _, rfl, isTrivia_eq_false (by simp [hc]), by simp [hc]⟩ hc more fun m hm' => by
      obtain ⟨hc', hd', hv'⟩ := hm m hm'
      exact ⟨hc', isTrivia_eq_false (by simp [hd']), fun R hR => caseListElement_digits hd' hv' hR⟩
  unfold caseGroupP
  rw [bind_some (sepBy1_cons (caseListElement_digits hd hv hfol) hmany), bind_some (ws_hd hc), bind_some (tok_hit hc), bind_some (hT.ws_stl hb), bind_some hl]
  rfl

theorem first_caseGroupP (g : Nat) :
    First ["Plus", "Digits", "Minus", "Plus", "Digits", "Minus", "Identifier", "Identifier"] (caseGroupP g) :=
  (first_caseListElement.bind _).bind _

theorem closer_of_else_endCase {K : Item} (hK : K.ty = "Else" ∨ K.ty = "EndCase") : isCloser K.ty = true := by
  rcases hK with h | h <;> exact closer_kw h

/-- the groups of a CASE as segments of a `ChainW` -/
def segsG : Groups → List (Sx × List Item)
  | .nil => []
  | .cons d v more colon body rest => (groupSx v more body.sxs, d :: (selToks more ++ colon :: body.toks)) :: segsG rest

theorem flat_segsG : (e : Groups) → flat (segsG e) = e.toks
  | .nil => rfl
  | .cons d v more colon body rest => by simp [segsG, flat_cons, Groups.toks, flat_segsG rest]

theorem map_segsG : (e : Groups) → (segsG e).map (·.1) = e.sxs
  | .nil => rfl
  | .cons d v more colon body rest => by simp only [segsG, List.map_cons, Groups.sxs, map_segsG rest]

/-- the groups are read one after the other, in front of ELSE or END_CASE -/
def Groups.Reads (e : Groups) : Prop :=
  e.WF → ∀ g K R, (K.ty = "Else" ∨ K.ty = "EndCase") → e.need ≤ g → ChainW (caseGroupP (g + 2)) (segsG e) (K :: R)

theorem closes_groups {e : Groups} (he : e.WF) {T : List Item} (hT : Closes T) : Closes (e.toks ++ T) := by
  cases e with
  | nil => exact hT
  | cons d v more colon body rest => exact .of (closer_kw he.1)

/-- `CASE sel OF groups [ELSE ..] END_CASE`: `K :: U` is what follows the groups, ELSE or END_CASE, and `he` says what the
optional ELSE is read as -/
theorem case_reads {g : Nat} {kCase kOf kEnd K : Item} {sel : S} {groups : Groups} {U R : List Item} {oe : Option (List Sx)}
    (hx : groups.Reads) (hCase : kCase.ty = "Case") (hOf : kOf.ty = "Of") (hEnd : kEnd.ty = "EndCase") (hs : sel.WF 0)
    (hxw : groups.WF) (hg : sel.need + groups.need + 4 ≤ g) (hK : K.ty = "Else" ∨ K.ty = "EndCase")
    (he : P.opt (do let _ ← tok "Else"; ws; statementList (g + 2)) (K :: U) = some (oe, kEnd :: R)) :
    statement (g + 4) (kCase :: (sel.toks ++ kOf :: (groups.toks ++ K :: U))) =
      some (.t "Case" [.n "Case" [("selector", sel.sx), ("statement_groups", .l groups.sxs), ("else_body", .l (oe.getD []))]], R) := by
  have hO := ends_kw (ts := groups.toks ++ K :: U) hOf
  have hKU : Closes (K :: U) := .of (closer_of_else_endCase hK)
  have hxs := sepBy_chainW (hx hxw g K U hK (by omega))
  rw [flat_segsG, map_segsG] at hxs
  unfold caseGroupP at hxs
  rw [statement_kw hCase, caseStatement, bind_some (tok_hit hCase), bind_some (ws_toks hs), bind_some (expression_reads hs hO (by omega)),
    bind_some hO.ws_id, bind_some (tok_hit hOf), bind_some (closes_groups hxw hKU).ws_id, bind_some hxs, bind_some hKU.ws_id,
    bind_some he, bind_some (ws_hd hEnd), bind_some (tok_hit hEnd)]
  rfl

theorem caseS_reads {kCase kOf kEnd : Item} {sel : S} {groups : Groups} (hx : groups.Reads) :
    (St.caseS kCase kOf sel groups kEnd).Reads := by
  rintro ⟨hCase, hOf, hEnd, hs, hxw⟩ F R hF _
  obtain ⟨g, rfl, hg⟩ := fuel_eq 4 hF
  simp only [St.toks, List.cons_append, List.append_assoc, List.nil_append]
  exact case_reads hx hCase hOf hEnd hs hxw hg (.inr hEnd) (else_none (by simp [hEnd]))

theorem caseElse_reads {kCase kOf kElse kEnd : Item} {sel : S} {groups : Groups} {els : Stl} (hels : els.Reads) (hx : groups.Reads) :
    (St.caseElse kCase kOf sel groups kElse els kEnd).Reads := by
  rintro ⟨hCase, hOf, hElse, hEnd, hs, hxw, hle, hne⟩ F R hF _
  obtain ⟨g, rfl, hg⟩ := fuel_eq 4 hF
  simp only [St.toks, List.cons_append, List.append_assoc, List.nil_append]
  exact case_reads hx hCase hOf hEnd hs hxw (by omega) (.inl hElse) (else_some hels hElse hle hne (by omega) (closer_kw hEnd))

/-! #### function block invocation with named inputs -/

/-- `n := e` as an argument: not an output assignment, a named input -/
theorem paramAssignment_named {g : Nat} {n a : Item} {e : S} {rest : List Item} (hn : n.ty = "Identifier") (ha : a.ty = "Assignment")
    (he : e.WF 0) (hrest : Ends rest) (hF : e.need + 1 ≤ g) :
    paramAssignment (g + 1) (n :: a :: (e.toks ++ rest)) = some (namedSx n e, rest) := by
  have hvn : variableName (n :: a :: (e.toks ++ rest)) = some (.a (txt n), a :: (e.toks ++ rest)) := identifier_hit hn
  have hout : (do let neg ← opt (tok "Not"); ws
                  let src ← variableName; ws; let _ ← tok "RightArrow"; ws
                  let tgt ← variableP g
                  pure (Sx.t "Output" [.n "Output" [("not", .bool neg.isSome), ("src", src), ("tgt", tgt)]]) : P Sx)
      (n :: a :: (e.toks ++ rest)) = none := by
    rw [bind_some (opt_none (tok_miss (by simp [hn]))), bind_some (ws_hd hn), bind_some hvn, bind_some (ws_hd ha)]
    exact bind_none (tok_miss (by simp [ha]))
  have hname : (do let n ← variableName; ws; let _ ← tok "Assignment"; pure n : P Sx) (n :: a :: (e.toks ++ rest))
      = some (.a (txt n), e.toks ++ rest) := by
    rw [bind_some hvn, bind_some (ws_hd ha), bind_some (tok_hit ha)]
    rfl
  rw [paramAssignment, orElse_none hout, bind_some (opt_some hname), bind_some (ws_toks he),
    bind_some (expression_reads he hrest hF)]
  rfl

theorem argsNeed_cons (m : Item × Item × Item × S) (more : List (Item × Item × Item × S)) :
    argsNeed (m :: more) = m.2.2.2.need + 1 + argsNeed more := by simp [argsNeed]

theorem need_le_argsNeed {more : List (Item × Item × Item × S)} {m : Item × Item × Item × S} (hm : m ∈ more) :
    m.2.2.2.need + 1 ≤ argsNeed more := by
  induction more with
  | nil => cases hm
  | cons x more ih =>
    rw [argsNeed_cons]
    rcases List.mem_cons.mp hm with rfl | h
    · exact Nat.le_add_right _ _
    · exact Nat.le_trans (ih h) (Nat.le_add_left _ _)

theorem fbInvocation_reads {g : Nat} {name lp n1 a1 rp : Item} {e1 : S} {more : List (Item × Item × Item × S)} {R : List Item}
    (hname : name.ty = "Identifier") (hlp : lp.ty = "LeftParen") (hrp : rp.ty = "RightParen")
    (hn1 : n1.ty = "Identifier") (ha1 : a1.ty = "Assignment") (he1 : e1.WF 0)
    (hmore : ∀ m ∈ more, m.1.ty = "Comma" ∧ m.2.1.ty = "Identifier" ∧ m.2.2.1.ty = "Assignment" ∧ m.2.2.2.WF 0)
    (hg : e1.need + 1 + argsNeed more ≤ g) :
    fbInvocation (g + 2) (name :: lp :: n1 :: a1 :: (e1.toks ++ (argToks more ++ rp :: R))) =
      some (.t "FbCall" [.n "FbCall" [("var_name", .a (txt name)),
        ("params", .l (namedSx n1 e1 :: more.map fun m => namedSx m.2.1 m.2.2.2))]], R) := by
  unfold argToks
  -- after an argument comes `,` or `)`
  obtain ⟨hfol, hmany⟩ := many_comma (p := paramAssignment (g + 1)) (·.1) (·.2.1) (fun m => m.2.2.1 :: m.2.2.2.toks)
    (fun m => namedSx m.2.1 m.2.2.2) Ends (fun c R h => ends_kw h) (K := rp) (T := R) (ends_kw hrp) hrp more fun m hm => by
      obtain ⟨hc, hn, ha, he⟩ := hmore m hm
      have hp := fun R hR => paramAssignment_named (g := g) (rest := R) hn ha he hR (by have := need_le_argsNeed hm; omega)
      exact ⟨hc, isTrivia_eq_false (by simp [hn]), hp⟩
  have hsep := sepBy_cons (paramAssignment_named hn1 ha1 he1 hfol (Nat.le_trans (Nat.le_add_right _ _) hg)) hmany
  rw [fbInvocation, bind_some (identifier_hit hname), bind_some (ws_hd hlp), bind_some (tok_hit hlp), bind_some (ws_hd hn1),
    bind_some hsep, bind_some (ws_hd hrp), bind_some (tok_hit hrp)]
  rfl

theorem callS_reads {name lp n1 a1 rp : Item} {e1 : S} {more : List (Item × Item × Item × S)} :
    (St.callS name lp n1 a1 e1 more rp).Reads := by
  rintro ⟨hname, hlp, hrp, hn1, ha1, he1, hmore⟩ F R hF _
  obtain ⟨g, rfl, hg⟩ := fuel_eq 3 hF
  -- a name in front of `(` starts no assignment
  have ha : assignP (g + 2) (name :: lp :: n1 :: a1 :: (e1.toks ++ (argToks more ++ rp :: R))) = none := by
    unfold assignP
    rw [bind_some (variableP_name hname (ws_hd hlp) (by simp [hlp]) (by simp [hlp])), bind_some (ws_hd hlp)]
    exact bind_none (tok_miss (by simp [hlp]))
  simp only [St.toks, List.cons_append, List.append_assoc, List.nil_append]
  rw [statement_cons ha]
  simp only [ruleOf, hname, String.reduceEq, if_false, if_true]
  exact fbInvocation_reads hname hlp hrp hn1 ha1 he1 hmore (by omega)

/-! #### WHILE, REPEAT, FOR, EXIT, RETURN -/

theorem whileS_reads {kW kDo kEnd : Item} {c : S} {body : Stl} (hb : body.Reads) : (St.whileS kW kDo c body kEnd).Reads := by
  rintro ⟨hW, hDo, hEnd, hc, hl, hne⟩ F R hF _
  obtain ⟨g, rfl, hg⟩ := fuel_eq 4 hF
  have hE : Closes (kEnd :: R) := .of (closer_kw hEnd)
  have hD := ends_kw (ts := body.toks ++ kEnd :: R) hDo
  simp only [St.toks, List.cons_append, List.append_assoc, List.nil_append]
  rw [statement_kw hW, whileStatement, bind_some (tok_hit hW), bind_some (ws_toks hc),
    bind_some (expression_reads hc hD (by omega)), bind_some hD.ws_id, bind_some (tok_hit hDo), bind_some (hE.ws_stl hl),
    bind_some (hb hl hne g _ (by omega) hE), bind_some hE.ws_id, bind_some (tok_hit hEnd)]
  rfl

theorem repeatS_reads {kR kU kEnd : Item} {c : S} {body : Stl} (hb : body.Reads) : (St.repeatS kR body kU c kEnd).Reads := by
  rintro ⟨hR, hU, hEnd, hc, hl, hne⟩ F R hF _
  obtain ⟨g, rfl, hg⟩ := fuel_eq 4 hF
  have hC : Closes (kU :: (c.toks ++ kEnd :: R)) := .of (closer_kw hU)
  have hE := ends_kw (ts := R) hEnd
  simp only [St.toks, List.cons_append, List.append_assoc, List.nil_append]
  rw [statement_kw hR, repeatStatement, bind_some (tok_hit hR), bind_some (hC.ws_stl hl), bind_some (hb hl hne g _ (by omega) hC),
    bind_some hC.ws_id, bind_some (tok_hit hU), bind_some (ws_toks hc), bind_some (expression_reads hc hE (by omega)),
    bind_some hE.ws_id, bind_some (tok_hit hEnd)]
  rfl

/-- the tokens of the optional `BY step` -/
def stepToks : Option (Item × S) → List Item
  | none => []
  | some (kBy, st) => kBy :: st.toks

theorem forS_reads {kFor ctl asg kTo kDo kEnd : Item} {frm to : S} {step : Option (Item × S)} {body : Stl} (hb : body.Reads) :
    (St.forS kFor ctl asg frm kTo to step kDo body kEnd).Reads := by
  rintro ⟨hFor, hC, hA, hTo, hDo, hEnd, hfr, hto, hl, hne, hstep⟩ F R hF _
  obtain ⟨g, rfl, hg⟩ := fuel_eq 4 hF
  have hE : Closes (kEnd :: R) := .of (closer_kw hEnd)
  have hD := ends_kw (ts := body.toks ++ kEnd :: R) hDo
  -- the optional step: it follows `to`, and `opt` reads it
  have hS : Ends (stepToks step ++ kDo :: (body.toks ++ kEnd :: R)) ∧
      P.opt (do let _ ← tok "By"; ws; expression (g + 2)) (stepToks step ++ kDo :: (body.toks ++ kEnd :: R)) =
        some (step.map (·.2.sx), kDo :: (body.toks ++ kEnd :: R)) := by
    cases step with
    | none => exact ⟨hD, opt_none (bind_none (tok_miss (by simp [hDo])))⟩
    | some p =>
      refine ⟨ends_kw hstep.1, ?_⟩
      show P.opt _ (p.1 :: (p.2.toks ++ _)) = some (some p.2.sx, _)
      apply opt_some
      rw [bind_some (tok_hit hstep.1), bind_some (ws_toks hstep.2)]
      exact expression_reads hstep.2 hD (by simp only [] at hg; omega)  -- `simp only []` reduces the `match` on the step in `St.need`
  have hT := ends_kw (ts := to.toks ++ (stepToks step ++ kDo :: (body.toks ++ kEnd :: R))) hTo
  have htoks : (St.forS kFor ctl asg frm kTo to step kDo body kEnd).toks ++ R =
      kFor :: ctl :: asg :: (frm.toks ++ kTo :: (to.toks ++ (stepToks step ++ kDo :: (body.toks ++ kEnd :: R)))) := by
    cases step <;> simp [St.toks, stepToks]
  rw [htoks, statement_kw hFor, forStatement, bind_some (tok_hit hFor), bind_some (ws_hd hC), bind_some (identifier_hit hC),
    bind_some (ws_hd hA), bind_some (tok_hit hA), bind_some (ws_toks hfr), bind_some (expression_reads hfr hT (by omega)),
    bind_some hT.ws_id, bind_some (tok_hit hTo), bind_some (ws_toks hto), bind_some (expression_reads hto hS.1 (by omega)),
    bind_some hS.1.ws_id, bind_some hS.2, bind_some hD.ws_id, bind_some (tok_hit hDo), bind_some (hE.ws_stl hl),
    bind_some (hb hl hne g _ (by omega) hE), bind_some hE.ws_id, bind_some (tok_hit hEnd)]
  rfl

theorem kwS_reads {k : Item} {s : String} (hs : s = "Exit" ∨ s = "Return") (h : k.ty = s) {F : Nat} (hF : 1 ≤ F) (R : List Item) :
    statement F (k :: R) = some (.a s, R) := by
  obtain ⟨g, rfl⟩ := Nat.exists_eq_add_of_le' hF
  rcases hs with rfl | rfl <;> rw [statement_kw h, bind_some (tok_hit h)] <;> rfl

/-! ### the round trip -/

mutual
  theorem st_reads_ends : (s : St) → s.Reads
    | .assign .. => assign_reads
    | .ifS _ _ _ body elifs _ => ifS_reads (stl_reads body) (elifs_chainW elifs)
    | .ifElse _ _ _ body elifs _ els _ => ifElse_reads (stl_reads body) (stl_reads els) (elifs_chainW elifs)
    | .caseS _ _ _ groups _ => caseS_reads (groups_chainW groups)
    | .caseElse _ _ _ groups _ els _ => caseElse_reads (stl_reads els) (groups_chainW groups)
    | .whileS _ _ _ body _ => whileS_reads (stl_reads body)
    | .repeatS _ body _ _ _ => repeatS_reads (stl_reads body)
    | .forS _ _ _ _ _ _ _ _ body _ => forS_reads (stl_reads body)
    | .callS .. => callS_reads
    | .exitS _ => fun hwf _ R hF _ => kwS_reads (.inl rfl) hwf hF R
    | .returnS _ => fun hwf _ R hF _ => kwS_reads (.inr rfl) hwf hF R

  theorem stl_chain : (l : Stl) → l.WF → ∀ (g : Nat) (prev K : Item) (R : List Item), prev.ty = "Semicolon" →
      isCloser K.ty = true → l.need ≤ g → Chain (sepStmt g) (chainOf prev l) (lastSemi prev l :: K :: R)
    | .nil => fun _ _ _ _ _ hprev hK _ => sepStmt_none_closer hprev hK
    | .cons s semi rest => fun ⟨hs, hsemi, hrest⟩ g prev K R hprev hK hg => by
      refine ⟨List.cons_ne_nil _ _, ?_, stl_chain rest hrest g semi K R hsemi hK (Nat.le_of_add_left_le hg)⟩
      rw [lastSemi, flat_chainOf]
      exact sepStmt_reads hprev hs (st_reads_ends s hs g _ (Nat.le_of_add_right_le hg) (ends_kw hsemi))

  theorem stl_reads : (l : Stl) → l.Reads
    | .nil => fun _ hne => by cases hne
    | .cons s semi rest => fun ⟨hs, hsemi, hrest⟩ _ g _ hg ⟨K, R, hT, hK⟩ => hT ▸
      statementList_reads hs hsemi hrest hK (st_reads_ends s hs g _ (Nat.le_of_add_right_le hg) (ends_kw hsemi))
        (stl_chain rest hrest g semi K R hsemi hK (Nat.le_of_add_left_le hg))

  theorem elifs_chainW : (e : Elifs) → e.WF → ∀ (g : Nat) (K : Item) (R : List Item),
      isCloser K.ty = true → K.ty ≠ "Elsif" → e.need ≤ g → ChainW (elsifP (g + 2)) (segsE e) (K :: R)
    | .nil => fun _ g K R hK hne _ => ⟨bind_none (tok_miss hne), ws_cons (closer_not_trivia hK)⟩
    | .cons kE kT c body rest => fun ⟨hE, hT, hc, hb, hbne, hrest⟩ g K R hK hne hg => by
      simp only [Elifs.need] at hg
      have hC := closes_elifs hrest (.of (R := R) hK)
      refine ⟨List.cons_ne_nil _ _, ws_hd hE, ?_, elifs_chainW rest hrest g K R hK hne (by omega)⟩
      rw [flat_segsE]
      exact elsifP_reads hE hT hc (by omega) hb hC (stl_reads body hb hbne g _ (by omega) hC)

  theorem groups_chainW : (e : Groups) → e.WF → ∀ (g : Nat) (K : Item) (R : List Item),
      (K.ty = "Else" ∨ K.ty = "EndCase") → e.need ≤ g → ChainW (caseGroupP (g + 2)) (segsG e) (K :: R)
    | .nil => fun _ g K R hK _ =>
      ⟨(first_caseGroupP _).cons (by rcases hK with h | h <;> simp [h]), ws_cons (closer_not_trivia (closer_of_else_endCase hK))⟩
    | .cons d v more colon body rest => fun ⟨hd, hv, hm, hc, hb, hbne, hrest⟩ g K R hK hg => by
      have hC := closes_groups hrest (.of (R := R) (closer_of_else_endCase hK))
      refine ⟨List.cons_ne_nil _ _, ws_hd hd, ?_, groups_chainW rest hrest g K R hK (Nat.le_of_add_left_le hg)⟩
      rw [flat_segsG]
      exact caseGroupP_reads hd hv hm hc hb hC (stl_reads body hb hbne g _ (Nat.le_of_add_right_le hg) hC)
end

theorem st_reads : (s : St) → s.WF → ∀ (F : Nat) (semi : Item) (R : List Item), semi.ty = "Semicolon" → s.need ≤ F →
    statement F (s.toks ++ semi :: R) = some (s.sx, semi :: R) :=
  fun s hwf F _ _ hsemi hF => st_reads_ends s hwf F _ hF (ends_kw hsemi)

/-! ### the fuel of the driver is enough -/

theorem argsNeed_le (more : List (Item × Item × Item × S)) : argsNeed more ≤ 5 * (argToks more).length := by
  induction more with
  | nil => simp [argsNeed, argToks]
  | cons m more ih =>
    have := S.need_le m.2.2.2
    rw [argsNeed_cons]
    simp only [argToks, List.flatMap_cons, List.length_append, List.length_cons] at ih ⊢
    omega

mutual
  theorem st_need_le : (s : St) → s.need ≤ 5 * s.toks.length := fun s => by
    cases s
    case forS kFor ctl asg frm kTo to step kDo body kEnd =>
      have := S.need_le frm; have := S.need_le to; have := stl_need_le body
      rcases step with _ | ⟨kBy, st⟩
      · simp only [St.need, St.toks, List.length_cons, List.length_append, List.length_nil]; omega
      · have := S.need_le st
        simp only [St.need, St.toks, List.length_cons, List.length_append, List.length_nil]; omega
    all_goals simp only [St.need, St.toks, List.length_cons, List.length_append, List.length_nil]
    case assign n a e => have := S.need_le e; omega
    case ifS kIf kThen c body elifs kEnd => have := S.need_le c; have := stl_need_le body; have := elifs_need_le elifs; omega
    case ifElse kIf kThen c body elifs kElse els kEnd =>
      have := S.need_le c; have := stl_need_le body; have := elifs_need_le elifs; have := stl_need_le els; omega
    case whileS kW kDo c body kEnd | repeatS kR body kU c kEnd => have := S.need_le c; have := stl_need_le body; omega
    case caseS kCase kOf sel groups kEnd => have := S.need_le sel; have := groups_need_le groups; omega
    case caseElse kCase kOf sel groups kElse els kEnd =>
      have := S.need_le sel; have := groups_need_le groups; have := stl_need_le els; omega
    case callS name lp n1 a1 e1 more rp => have := S.need_le e1; have := argsNeed_le more; omega
    all_goals omega
  theorem stl_need_le : (l : Stl) → l.need ≤ 5 * l.toks.length
    | .nil => Nat.le_refl 0
    | .cons s semi rest => by
      have := st_need_le s; have := stl_need_le rest
      simp only [Stl.need, Stl.toks, List.length_cons, List.length_append]; omega
  theorem elifs_need_le : (e : Elifs) → e.need ≤ 5 * e.toks.length
    | .nil => Nat.le_refl 0
    | .cons kE kT c body rest => by
      have := S.need_le c; have := stl_need_le body; have := elifs_need_le rest
      simp only [Elifs.need, Elifs.toks, List.length_cons, List.length_append]; omega
  theorem groups_need_le : (e : Groups) → e.need ≤ 5 * e.toks.length
    | .nil => Nat.le_refl 0
    | .cons d v more colon body rest => by
      have := stl_need_le body; have := groups_need_le rest
      simp only [Groups.need, Groups.toks, List.length_cons, List.length_append]; omega
end

/-- **The mirror reads every well-formed statement list back as its tree**, with the fuel the driver gives
it.  `K` is the keyword that closes the list (END_IF, ELSE, UNTIL, END_WHILE, END_PROGRAM, …). -/
theorem statementList_roundtrip {l : Stl} (hl : l.WF) (hne : l.isNil = false) {K : Item} (R : List Item)
    (hK : isCloser K.ty = true) :
    statementList (fuelFor (l.toks ++ K :: R).length) (l.toks ++ K :: R) = some (l.sxs, K :: R) := by
  have := stl_need_le l
  unfold fuelFor
  -- `fuelFor n = 24 * n + 200`, and `Stl.Reads` counts two less
  exact stl_reads l hl hne (24 * (l.toks ++ K :: R).length + 198) _ (by rw [List.length_append]; omega) (.of hK)

end MX

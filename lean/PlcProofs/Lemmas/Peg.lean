import PlcModel.Peg

/-!
# The PEG combinators of `PlcModel/Peg.lean` on a given input

What the round-trip proofs of the parser mirror (`MirrorExpr.lean` … `MirrorFb.lean`) know about the combinators, and
nothing about any grammar rule:

* a rule is run on a token list step by step, `rw [rule, bind_some h₁, bind_some h₂, …]`, each `hᵢ` saying what the
  next sub-parser does on what is left; rules that only test tokens are run by `simp only` with the equations
  `bind_run`, `orElse_run`, `opt_run`, `tok_cons`;
* `First tys p`: `p` fails unless the next token has one of the types `tys` (the FIRST set of a rule);
* `Chain p segs rest`: `p` reads the segments `segs` one after the other and fails on `rest`, so `p*` reads them all
  (the form for elements that are no `List`: the statement lists of `MirrorStmt.lean` are a mutual inductive type);
* the lists with separators of the grammar on a list of elements: `(, p)*` (`many_comma`), `semisep(p)`
  (`semisep_of_many`, `semisep_reads`), `p ** _` (`sepBy_chainW`, `chainW_of_reads`).
-/

open P

namespace MX

/-! ### the parser monad -/

theorem bind_run {α β} (p : P α) (q : α → P β) (ts : List Item) :
    (p >>= q) ts = (p ts).bind (fun r => q r.1 r.2) := by
  show (StateT.bind p q) ts = _
  cases h : p ts <;> simp [StateT.bind, h]

theorem orElse_run {α} (p q : P α) (ts : List Item) : (p <|> q) ts = (p ts).orElse (fun _ => q ts) := by
  show (StateT.orElse p (fun _ => q)) ts = _
  cases h : p ts <;> simp [StateT.orElse, h]

theorem map_run {α β} (f : α → β) (p : P α) (ts : List Item) :
    (f <$> p) ts = (p ts).map (fun r => (f r.1, r.2)) := by
  show (StateT.map f p) ts = _
  cases h : p ts <;> simp [StateT.map, h]

theorem pure_run {α} (a : α) (ts : List Item) : (pure a : P α) ts = some (a, ts) := rfl

theorem fail_run {α} (ts : List Item) : (P.fail : P α) ts = none := rfl

theorem opt_run {α} (p : P α) (ts : List Item) : P.opt p ts = match p ts with
  | some (a, rest) => some (some a, rest) | none => some (none, ts) := rfl

theorem tok_cons (ty : String) (t : Item) (ts : List Item) :
    tok ty (t :: ts) = if t.ty == ty then some (t, ts) else none := rfl

section
variable {α β : Type} {p : P α} {q : α → P β} {ts ts' : List Item} {a : α}

theorem bind_some (h : p ts = some (a, ts')) : (p >>= q) ts = q a ts' := by rw [bind_run, h]; rfl

theorem bind_none (h : p ts = none) : (p >>= q) ts = none := by rw [bind_run, h]; rfl

theorem orElse_some {q : P α} {r} (h : p ts = some r) : (p <|> q) ts = some r := by rw [orElse_run, h]; rfl

theorem orElse_none {q : P α} (h : p ts = none) : (p <|> q) ts = q ts := by rw [orElse_run, h]; rfl

theorem orElse_skip {q : P α} {r} (hp : p ts = none) (hq : q ts = r) : (p <|> q) ts = r := (orElse_none hp).trans hq

theorem opt_some (h : p ts = some (a, ts')) : P.opt p ts = some (some a, ts') := by rw [opt_run, h]

theorem opt_none (h : p ts = none) : P.opt p ts = some (none, ts) := by rw [opt_run, h]

end

section
variable {ty : String} {t : Item} {ts : List Item}

theorem tok_hit (h : t.ty = ty) : tok ty (t :: ts) = some (t, ts) := by simp [tok_cons, h]
theorem tok_miss (h : t.ty ≠ ty) : tok ty (t :: ts) = none := by simp [tok_cons, h]
theorem tok_nil : tok ty [] = none := rfl

theorem tokEq_miss (ty val : String) (t : Item) (ts : List Item) (h : t.ty ≠ ty) : tokEq ty val (t :: ts) = none := by
  simp [tokEq, h]

theorem semicolon_hit (h : t.ty = "Semicolon") : semicolon (t :: ts) = some ((), ts) := by
  rw [semicolon, bind_some (tok_hit h)]; rfl
theorem semicolon_miss (h : t.ty ≠ "Semicolon") : semicolon (t :: ts) = none := bind_none (tok_miss h)

theorem comma_hit (h : t.ty = "Comma") : comma (t :: ts) = some ((), ts) := by
  rw [comma, bind_some (tok_hit h)]; rfl
theorem comma_miss (h : t.ty ≠ "Comma") : comma (t :: ts) = none := bind_none (tok_miss h)

end

/-! ### layout -/

def isTrivia (ty : String) : Bool := ty == "Whitespace" || ty == "Newline" || ty == "Comment"

theorem ws_cons {t : Item} {ts : List Item} (h : isTrivia t.ty = false) : ws (t :: ts) = some ((), t :: ts) := by
  simp only [isTrivia] at h
  simp [ws, List.dropWhile, h]
theorem ws_nil : ws [] = some ((), []) := rfl

theorem not_trivia_of (t : Item) (tys : List String) (h : t.ty ∈ tys) (hall : tys.all (fun x => !isTrivia x) = true) :
    isTrivia t.ty = false := by
  have := List.all_eq_true.mp hall _ h
  simpa using this

theorem isTrivia_eq_false {ty : String} (h : ty ∉ ["Whitespace", "Newline", "Comment"]) : isTrivia ty = false := by
  simpa [isTrivia, not_or, and_assoc] using h

/-- no layout in front of a token of a known type: at a call `s` is a literal and `simp` closes `hs` -/
theorem ws_hd {t : Item} {ts : List Item} {s : String} (h : t.ty = s) (hs : s ∉ ["Whitespace", "Newline", "Comment"] := by simp) :
    ws (t :: ts) = some ((), t :: ts) :=
  ws_cons (isTrivia_eq_false (h ▸ hs))

/-- `f` is a class of token types given as a Boolean function (`isCloser`, …): a token whose type is in it has none of the
types `tys`, which are not -/
theorem not_mem_of_class {f : String → Bool} {t : Item} (ht : f t.ty = true) {tys : List String}
    (h : tys.all (fun s => !f s) = true) : t.ty ∉ tys := fun hm => by
  have := List.all_eq_true.mp h _ hm
  simp [ht] at this

/-! ### the first token of a rule -/

/-- `p` fails on the empty input and on every input whose first token has none of the types `tys` -/
structure First {α} (tys : List String) (p : P α) : Prop where
  nil : p [] = none
  cons : ∀ {t ts}, t.ty ∉ tys → p (t :: ts) = none

namespace First
variable {α β : Type} {a b : List String} {p q : P α}

-- in this namespace `tok`, `fail`, `bind`, `orElse` name the lemmas below: the combinators are written `P.fail`, `P.opt`, …

theorem tok (K : String) : First [K] (tok K) := ⟨tok_nil, fun h => tok_miss (by simpa using h)⟩

theorem fail : First a (P.fail : P α) := ⟨rfl, fun _ => rfl⟩

theorem bind (hp : First a p) (f : α → P β) : First a (p >>= f) := ⟨bind_none hp.nil, fun h => bind_none (hp.cons h)⟩

theorem orElse (hp : First a p) (hq : First b q) : First (a ++ b) (p <|> q) :=
  ⟨by rw [orElse_none hp.nil]; exact hq.nil, fun h => by
    rw [List.mem_append, not_or] at h
    rw [orElse_none (hp.cons h.1)]; exact hq.cons h.2⟩

theorem mono (hp : First a p) (h : ∀ s ∈ a, s ∈ b) : First b p := ⟨hp.nil, fun ht => hp.cons fun hm => ht (h _ hm)⟩

/-- `orElse` for alternatives with one and the same set -/
theorem or (hp : First a p) (hq : First a q) : First a (p <|> q) :=
  (hp.orElse hq).mono fun _ h => (List.mem_append.mp h).elim id id

theorem opt_bind {γ} {f : Option α → P γ} (hp : First a p) (hf : ∀ x, First b (f x)) : First (a ++ b) (P.opt p >>= f) :=
  ⟨by rw [bind_some (opt_none hp.nil)]; exact (hf _).nil, fun h => by
    rw [List.mem_append, not_or] at h
    rw [bind_some (opt_none (hp.cons h.1))]; exact (hf _).cons h.2⟩

theorem ne {K : String} (hp : First [K] p) {t : Item} {ts : List Item} (h : t.ty ≠ K) : p (t :: ts) = none :=
  hp.cons (by simpa using h)

theorem head (hp : First a p) {ts : List Item} {r} (h : p ts = some r) : ∃ t ts', ts = t :: ts' ∧ t.ty ∈ a := by
  cases ts with
  | nil => rw [hp.nil] at h; cases h
  | cons t ts' =>
    refine ⟨t, ts', rfl, Decidable.byContradiction fun hn => ?_⟩
    rw [hp.cons hn] at h; cases h

end First

/-- `q` is decided by its first token: on `t :: ts` it is the rule `r t.ty`, and only a token with a type in `b` starts it -/
structure Decides {α} (b : List String) (r : String → P α) (q : P α) : Prop where
  first : First b q
  run : ∀ t ts, q (t :: ts) = r t.ty (t :: ts)

theorem Decides.last {α} {K : String} {p : P α} (hp : First [K] p) : Decides [K] (fun ty => if ty = K then p else P.fail) p :=
  ⟨hp, fun t ts => by
    split
    · rfl
    · exact hp.ne ‹_›⟩

/-- one more alternative in front, with a keyword of its own -/
theorem Decides.cons {α} {K : String} {b : List String} {r : String → P α} {p q : P α} (hp : First [K] p) (hq : Decides b r q)
    (hK : K ∉ b) : Decides (K :: b) (fun ty => if ty = K then p else r ty) (p <|> q) :=
  ⟨hp.orElse hq.first, fun t ts => by
    split
    -- on its keyword `p` answers: where it fails, the others fail too, since `K` starts none of them
    next h => rw [orElse_run, hq.first.cons (h ▸ hK)]; cases p (t :: ts) <;> rfl
    next h => rw [orElse_none (hp.ne h)]; exact hq.run t ts⟩

/-! ### `p*` on a chain of segments -/

/-- fuel above the length of the input does not matter -/
theorem manyF_fuel {α} (p : P α) : ∀ (n m : Nat) (ts : List Item), ts.length < n → ts.length < m → manyF p n ts = manyF p m ts
  | n + 1, m + 1, ts, hn, hm => by
    simp only [manyF]
    split
    · rename_i a rest _
      split
      next hlt =>
        rw [manyF_fuel p n m rest (Nat.lt_of_lt_of_le hlt (Nat.le_of_lt_succ hn)) (Nat.lt_of_lt_of_le hlt (Nat.le_of_lt_succ hm))]
      next => rfl
    · rfl

theorem many_none {α} {p : P α} {ts : List Item} (h : p ts = none) : many p ts = some ([], ts) := by
  simp only [many, manyF, h]

theorem many_cons {α} {p : P α} {seg rest rest' : List Item} {a : α} {as : List α} (hne : seg ≠ [])
    (h : p (seg ++ rest) = some (a, rest)) (hr : many p rest = some (as, rest')) :
    many p (seg ++ rest) = some (a :: as, rest') := by
  have hlt : rest.length < (seg ++ rest).length := by
    rw [List.length_append]; exact Nat.lt_add_of_pos_left (List.length_pos_iff.mpr hne)
  have hrec : manyF p (seg ++ rest).length rest = some (as, rest') := (manyF_fuel p _ _ rest hlt (Nat.lt_succ_self _)).trans hr
  simp only [many, manyF, h, hlt, if_true, hrec]

section
variable {α β : Type} {p : P α} {sep : P β} {ts rest rest' : List Item} {a : α} {as : List α}

theorem sepBy_of_none (h : p ts = none) : sepBy p sep ts = some ([], ts) := by simp only [sepBy, h]

theorem sepBy_cons (h : p ts = some (a, rest)) (hm : many (do let _ ← sep; p) rest = some (as, rest')) :
    sepBy p sep ts = some (a :: as, rest') := by simp only [sepBy, h, hm]

theorem sepBy1_cons (h : p ts = some (a, rest)) (hm : many (do let _ ← sep; p) rest = some (as, rest')) :
    sepBy1 p sep ts = some (a :: as, rest') := by rw [sepBy1, bind_some h, bind_some hm]; rfl

theorem many1_cons (h : p ts = some (a, rest)) (hm : many p rest = some (as, rest')) : many1 p ts = some (a :: as, rest') := by
  unfold many1
  rw [bind_some h, bind_some hm]
  rfl

end

def flat {α} (segs : List (α × List Item)) : List Item := segs.flatMap (·.2)

theorem flat_cons {α} (a : α) (seg : List Item) (more : List (α × List Item)) : flat ((a, seg) :: more) = seg ++ flat more := rfl

/-- `p` reads the segments one after the other and fails on what follows them -/
def Chain {α} (p : P α) : List (α × List Item) → List Item → Prop
  | [], rest => p rest = none
  | (a, seg) :: more, rest => seg ≠ [] ∧ p (seg ++ (flat more ++ rest)) = some (a, flat more ++ rest) ∧ Chain p more rest

theorem many_chain {α} {p : P α} : ∀ {segs : List (α × List Item)} {rest : List Item}, Chain p segs rest →
    many p (flat segs ++ rest) = some (segs.map (·.1), rest)
  | [], _, h => many_none h
  | (a, seg) :: more, rest, ⟨hne, hp, hmore⟩ => by
    rw [flat_cons, List.append_assoc]
    exact many_cons hne hp (many_chain hmore)

/-- like `Chain`, for a list `p ** _`: `p` reads the segments, layout between them is none, `p` fails on what follows -/
def ChainW {α} (p : P α) : List (α × List Item) → List Item → Prop
  | [], rest => p rest = none ∧ ws rest = some ((), rest)
  | (a, seg) :: more, rest => seg ≠ [] ∧ ws (seg ++ (flat more ++ rest)) = some ((), seg ++ (flat more ++ rest)) ∧
      p (seg ++ (flat more ++ rest)) = some (a, flat more ++ rest) ∧ ChainW p more rest

theorem chainW_chain {α} {p : P α} : ∀ {segs : List (α × List Item)} {rest : List Item},
    ChainW p segs rest → Chain (do let _ ← ws; p : P α) segs rest
  | [], _, h => by show (do let _ ← ws; p : P α) _ = none; rw [bind_some h.2]; exact h.1
  | (_, _) :: _, _, ⟨hne, hws, hp, hmore⟩ => ⟨hne, by rw [bind_some hws]; exact hp, chainW_chain hmore⟩

/-- `p ** _` on a chain -/
theorem sepBy_chainW {α} {p : P α} {segs : List (α × List Item)} {rest : List Item} (h : ChainW p segs rest) :
    sepBy p ws (flat segs ++ rest) = some (segs.map (·.1), rest) := by
  cases segs with
  | nil => exact sepBy_of_none h.1
  | cons x more =>
    obtain ⟨a, seg⟩ := x
    obtain ⟨-, -, hp, hmore⟩ := h
    rw [flat_cons, List.append_assoc]
    exact sepBy_cons hp (many_chain (chainW_chain hmore))

theorem ChainW.ws_id {α} {p : P α} {segs : List (α × List Item)} {rest : List Item} (h : ChainW p segs rest) :
    ws (flat segs ++ rest) = some ((), flat segs ++ rest) := by
  cases segs with
  | nil => exact h.2
  | cons x more => rw [flat_cons, List.append_assoc]; exact h.2.1

/-- a `p` that starts with no layout reads only input that starts with none -/
theorem First.ws_id {α} {p : P α} {tys : List String} (hp : First tys p) (hS : tys.all (fun s => !isTrivia s) = true)
    {ts : List Item} {r} (h : p ts = some r) : ws ts = some ((), ts) := by
  obtain ⟨t, ts', rfl, ht⟩ := hp.head h
  exact ws_cons (not_trivia_of t tys ht hS)

/-- elements that `p` reads whatever follows form a `ChainW` up to the end of the input, for a `p` that starts with no
layout (`hp`, `hS`) -/
theorem chainW_of_reads {α β} {p : P β} {tys : List String} (hp : First tys p) (hS : tys.all (fun s => !isTrivia s) = true)
    (toks : α → List Item) (val : α → β) :
    ∀ xs : List α, (∀ a ∈ xs, ∀ R, p (toks a ++ R) = some (val a, R)) → ChainW p (xs.map fun a => (val a, toks a)) []
  | [], _ => ⟨hp.nil, ws_nil⟩
  | a :: xs, h => by
    have ha := h a (List.mem_cons_self ..)
    obtain ⟨t, ts, hts, -⟩ := hp.head (ha [])
    rw [List.append_nil] at hts
    exact ⟨by simp [hts], hp.ws_id hS (ha _), ha _, chainW_of_reads hp hS toks val xs fun b hb => h b (List.mem_cons_of_mem _ hb)⟩

/-! ### lists with separators -/

theorem sepSemi_reads {c : Item} {ts : List Item} (hc : c.ty = "Semicolon") (hws : ws ts = some ((), ts)) :
    (do ws; semicolon; ws : P Unit) (c :: ts) = some ((), ts) := by
  rw [bind_some (ws_hd hc), bind_some (semicolon_hit hc)]
  exact hws

theorem sepComma_reads {c : Item} {ts : List Item} (hc : c.ty = "Comma") (hws : ws ts = some ((), ts)) :
    (do ws; comma; ws : P Unit) (c :: ts) = some ((), ts) := by
  rw [bind_some (ws_hd hc), bind_some (comma_hit hc)]
  exact hws

/-- `(, p)*` reads the elements `, x` (tokens `sep a :: hd a :: tl a`) and stops in front of `K`, which is no comma
(`hKs`, `hs`: at a call `s` is the literal type of `K`, and `simp` checks it against the list).
`follow` is what `p` has to know about the input behind an element to stop there: it holds in front of every comma and
in front of `K`, hence (first part) in front of the elements and `K`. -/
theorem many_comma {α β} {p : P β} (sep hd : α → Item) (tl : α → List Item) (val : α → β) (follow : List Item → Prop)
    (hcomma : ∀ (c : Item) R, c.ty = "Comma" → follow (c :: R)) {K : Item} {T : List Item} (hK : follow (K :: T))
    {s : String} (hKs : K.ty = s) (xs : List α)
    (h : ∀ a ∈ xs, (sep a).ty = "Comma" ∧ isTrivia (hd a).ty = false ∧ ∀ R, follow R → p (hd a :: (tl a ++ R)) = some (val a, R))
    (hs : s ∉ ["Comma", "Whitespace", "Newline", "Comment"] := by simp) :
    follow (xs.flatMap (fun a => sep a :: hd a :: tl a) ++ K :: T) ∧
    many (do let _ ← (do ws; comma; ws : P Unit); p : P β) (xs.flatMap (fun a => sep a :: hd a :: tl a) ++ K :: T)
      = some (xs.map val, K :: T) := by
  induction xs with
  | nil =>
    refine ⟨hK, many_none (bind_none ?_)⟩
    show (do ws; comma; ws : P Unit) (K :: T) = none
    -- `hs` lists "Comma" first and the layout types behind it
    rw [bind_some (ws_hd hKs fun h => hs (.tail _ h))]
    exact bind_none (comma_miss fun h => hs (by simp [← hKs, h]))
  | cons a xs ih =>
    obtain ⟨hc, ht, hp⟩ := h a (List.mem_cons_self ..)
    obtain ⟨hf, hm⟩ := ih fun b hb => h b (List.mem_cons_of_mem _ hb)
    rw [List.flatMap_cons, List.append_assoc, List.map_cons]
    refine ⟨hcomma _ _ hc, many_cons (List.cons_ne_nil _ _) ?_ hm⟩
    rw [List.cons_append, List.cons_append, bind_some (sepComma_reads hc (ws_cons ht))]
    exact hp _ hf

/-- `semisep(p)` on a first element and further elements `; p`, the repetition ending in front of the last semicolon -/
theorem semisep_of_many {β} {p : P β} {a : β} {as : List β} {first U T : List Item} {s : Item}
    (hfirst : p (first ++ U) = some (a, U))
    (hmany : many (do let _ ← (do ws; semicolon; ws : P Unit); p : P β) U = some (as, s :: T)) (hs : s.ty = "Semicolon") :
    semisep p (first ++ U) = some (a :: as, T) := by
  unfold semisep
  rw [bind_some (sepBy_cons hfirst hmany), bind_some (ws_hd hs), bind_some (semicolon_hit hs)]
  rfl

/-- `(; p)*` behind a semicolon reads the elements `x ;` and stops in front of the last semicolon: behind that one `p`
fails, and the repetition gives the semicolon back.  `p` starts with no layout (`hp`, `hS`), so none is skipped. -/
theorem many_semi {α β} {p : P β} {tys : List String} (hp : First tys p) (hS : tys.all (fun s => !isTrivia s) = true)
    (toks : α → List Item) (semi : α → Item) (val : α → β) (K : Item) (T : List Item)
    (hK : isTrivia K.ty = false) (hKS : K.ty ∉ tys) : ∀ (xs : List α) (prev : Item), prev.ty = "Semicolon" →
    (∀ a ∈ xs, (semi a).ty = "Semicolon" ∧ ∀ R, p (toks a ++ semi a :: R) = some (val a, semi a :: R)) →
    ∃ s, s.ty = "Semicolon" ∧ many (do let _ ← (do ws; semicolon; ws : P Unit); p : P β)
      (prev :: (xs.flatMap (fun a => toks a ++ [semi a]) ++ K :: T)) = some (xs.map val, s :: K :: T)
  | [], prev, hprev, _ => ⟨prev, hprev, many_none (by
      show (do let _ ← (do ws; semicolon; ws : P Unit); p : P β) (prev :: K :: T) = none
      rw [bind_some (sepSemi_reads hprev (ws_cons hK))]; exact hp.cons hKS)⟩
  | a :: xs, prev, hprev, h => by
    obtain ⟨hsemi, ha⟩ := h a (List.mem_cons_self ..)
    obtain ⟨s, hs, hm⟩ := many_semi hp hS toks semi val K T hK hKS xs (semi a) hsemi fun b hb => h b (List.mem_cons_of_mem _ hb)
    refine ⟨s, hs, ?_⟩
    have hax := ha (xs.flatMap (fun a => toks a ++ [semi a]) ++ K :: T)
    rw [List.flatMap_cons, List.append_assoc, List.append_assoc, List.singleton_append, List.map_cons]
    refine many_cons (seg := prev :: toks a) (List.cons_ne_nil _ _) ?_ hm
    show (do let _ ← (do ws; semicolon; ws : P Unit); p : P β) (prev :: (toks a ++ _)) = _
    rw [bind_some (sepSemi_reads hprev (hp.ws_id hS hax))]
    exact hax

/-- `semisep(p)` on `x1 ; … xn ;` (n ≥ 1) followed by a token that starts no `p` -/
theorem semisep_reads {α β} {p : P β} {tys : List String} (hp : First tys p) (hS : tys.all (fun s => !isTrivia s) = true)
    (toks : α → List Item) (semi : α → Item) (val : α → β) (K : Item) (T : List Item)
    (hK : isTrivia K.ty = false) (hKS : K.ty ∉ tys) (x : α) (xs : List α)
    (h : ∀ a ∈ x :: xs, (semi a).ty = "Semicolon" ∧ ∀ R, p (toks a ++ semi a :: R) = some (val a, semi a :: R)) :
    semisep p ((x :: xs).flatMap (fun a => toks a ++ [semi a]) ++ K :: T) = some ((x :: xs).map val, K :: T) := by
  obtain ⟨hsemi, hx⟩ := h x (List.mem_cons_self ..)
  obtain ⟨s, hs, hm⟩ := many_semi hp hS toks semi val K T hK hKS xs (semi x) hsemi fun b hb => h b (List.mem_cons_of_mem _ hb)
  rw [List.flatMap_cons, List.append_assoc, List.append_assoc, List.singleton_append]
  exact semisep_of_many (hx _) hm hs

end MX

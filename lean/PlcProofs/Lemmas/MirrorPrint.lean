import PlcProofs.Lemmas.MirrorStmt

/-!
# Statement trees and the renderer's printing of them

`A` / `Al` are statements / statement lists as the dsl holds them: no keywords, no separators, no parentheses — names,
expressions (`MX.E`) and nested statement lists (`Ael`: the ELSIF branches of an IF, `Ag`: the groups of a CASE).  `A.pr` writes a tree the way `plc2plc` does: the keywords in capitals, every
expression in the renderer's parenthesisation (`E.full`), one `;` after every statement, `ELSE` only in front of a
non-empty branch.  The result is a token tree of `MirrorStmt` that is well-formed whenever the names and expressions
of the tree are, and whose dsl tree is the tree that was printed — so the parser mirror reads every printed tree back.
-/

open P Parse

namespace MX

/-- a keyword or separator as the renderer writes it (positions play no role for the parser) -/
def kw (ty text : String) : Item := ⟨false, ty, 0, 0, 0, 0, text.toList⟩

def kLp := kw "LeftParen" "("
def kRp := kw "RightParen" ")"
def kSemi := kw "Semicolon" ";"
def kAsg := kw "Assignment" ":="
def kComma := kw "Comma" ","
def kColon := kw "Colon" ":"

mutual
  inductive A where
    | assign (n : Item) (e : E)
    /-- `els = nil`: no ELSE branch -/
    | ifA (c : E) (body : Al) (elifs : Ael) (els : Al)
    | caseA (sel : E) (groups : Ag) (els : Al)
    | forA (ctl : Item) (frm to : E) (step : Option E) (body : Al)
    | whileA (c : E) (body : Al)
    | repeatA (body : Al) (c : E)
    /-- `inst(n1 := e1, …)` -/
    | callA (inst n1 : Item) (e1 : E) (more : List (Item × E))
    | exitA
    | returnA
  inductive Al where
    | nil
    | cons (s : A) (rest : Al)
  inductive Ael where
    | nil
    | cons (c : E) (body : Al) (rest : Ael)
  /-- case groups: selector literals (token, value) and the statements -/
  inductive Ag where
    | nil
    | cons (d : Item) (v : Nat) (more : List (Item × Nat)) (body : Al) (rest : Ag)
end

def Al.isNil : Al → Bool
  | .nil => true
  | _ => false

/-- an expression as the renderer writes it -/
def ex (e : E) : S := E.full kLp kRp e

def prArgs (more : List (Item × E)) : List (Item × Item × Item × S) := more.map fun m => (kComma, m.1, kAsg, ex m.2)
def prSels (more : List (Item × Nat)) : List (Item × Item × Nat) := more.map fun m => (kComma, m.1, m.2)

mutual
  /-- the renderer's printing, as a token tree -/
  def A.pr : A → St
    | .assign n e => .assign n kAsg (ex e)
    | .ifA c body elifs .nil => .ifS (kw "If" "IF") (kw "Then" "THEN") (ex c) body.pr elifs.pr (kw "EndIf" "END_IF")
    | .ifA c body elifs (.cons s rest) =>
        .ifElse (kw "If" "IF") (kw "Then" "THEN") (ex c) body.pr elifs.pr (kw "Else" "ELSE") (Al.cons s rest).pr (kw "EndIf" "END_IF")
    | .caseA sel groups .nil => .caseS (kw "Case" "CASE") (kw "Of" "OF") (ex sel) groups.pr (kw "EndCase" "END_CASE")
    | .caseA sel groups (.cons s rest) =>
        .caseElse (kw "Case" "CASE") (kw "Of" "OF") (ex sel) groups.pr (kw "Else" "ELSE") (Al.cons s rest).pr (kw "EndCase" "END_CASE")
    | .forA ctl frm to step body =>
        .forS (kw "For" "FOR") ctl kAsg (ex frm) (kw "To" "TO") (ex to) (step.map fun st => (kw "By" "BY", ex st)) (kw "Do" "DO") body.pr
          (kw "EndFor" "END_FOR")
    | .whileA c body => .whileS (kw "While" "WHILE") (kw "Do" "DO") (ex c) body.pr (kw "EndWhile" "END_WHILE")
    | .repeatA body c => .repeatS (kw "Repeat" "REPEAT") body.pr (kw "Until" "UNTIL") (ex c) (kw "EndRepeat" "END_REPEAT")
    | .callA inst n1 e1 more => .callS inst kLp n1 kAsg (ex e1) (prArgs more) kRp
    | .exitA => .exitS (kw "Exit" "EXIT")
    | .returnA => .returnS (kw "Return" "RETURN")
  def Al.pr : Al → Stl
    | .nil => .nil
    | .cons s rest => .cons s.pr kSemi rest.pr
  def Ael.pr : Ael → Elifs
    | .nil => .nil
    | .cons c body rest => .cons (kw "Elsif" "ELSIF") (kw "Then" "THEN") (ex c) body.pr rest.pr
  def Ag.pr : Ag → Groups
    | .nil => .nil
    | .cons d v more body rest => .cons d v (prSels more) kColon body.pr rest.pr
end

mutual
  /-- the dsl tree of a statement tree (what the grammar actions build for it) -/
  def A.sx : A → Sx
    | .assign n e => .t "Assignment" [.n "Assignment"
        [("target", .t "Symbolic" [.t "Named" [.n "NamedVariable" [("name", .a (txt n))]]]), ("value", e.sx)]]
    | .ifA c body elifs els =>
        .t "If" [.n "If" [("expr", c.sx), ("body", .l body.sxs), ("else_ifs", .l elifs.sxs), ("else_body", .l els.sxs)]]
    | .caseA sel groups els =>
        .t "Case" [.n "Case" [("selector", sel.sx), ("statement_groups", .l groups.sxs), ("else_body", .l els.sxs)]]
    | .forA ctl frm to step body =>
        .t "For" [.n "For" [("control", .a (txt ctl)), ("from", frm.sx), ("to", to.sx),
                            ("step", Sx.opt (step.map E.sx)), ("body", .l body.sxs)]]
    | .whileA c body => .t "While" [.n "While" [("condition", c.sx), ("body", .l body.sxs)]]
    | .repeatA body c => .t "Repeat" [.n "Repeat" [("until", c.sx), ("body", .l body.sxs)]]
    | .callA inst n1 e1 more =>
        .t "FbCall" [.n "FbCall" [("var_name", .a (txt inst)),
          ("params", .l (.t "NamedInput" [.n "NamedInput" [("name", .a (txt n1)), ("expr", e1.sx)]] ::
            more.map fun m => .t "NamedInput" [.n "NamedInput" [("name", .a (txt m.1)), ("expr", m.2.sx)]]))]]
    | .exitA => .a "Exit"
    | .returnA => .a "Return"
  def Al.sxs : Al → List Sx
    | .nil => []
    | .cons s rest => s.sx :: rest.sxs
  def Ael.sxs : Ael → List Sx
    | .nil => []
    | .cons c body rest => .n "ElseIf" [("expr", c.sx), ("body", .l body.sxs)] :: rest.sxs
  def Ag.sxs : Ag → List Sx
    | .nil => []
    | .cons _ v more body rest =>
        .n "CaseStatementGroup" [("selectors", .l (selSx v :: more.map fun m => selSx m.2)), ("statements", .l body.sxs)] :: rest.sxs
end

mutual
  /-- names are identifiers, expressions are over the operator table, selector literals are integers, and the bodies the
  grammar wants non-empty are non-empty -/
  def A.Ok : A → Prop
    | .assign n e => n.ty = "Identifier" ∧ e.Ok
    | .ifA c body elifs els => c.Ok ∧ body.Ok ∧ elifs.Ok ∧ els.Ok
    | .caseA sel groups els => sel.Ok ∧ groups.Ok ∧ els.Ok
    | .forA ctl frm to step body =>
        ctl.ty = "Identifier" ∧ frm.Ok ∧ to.Ok ∧ (match step with | none => True | some st => st.Ok) ∧ body.Ok ∧ body.isNil = false
    | .whileA c body => c.Ok ∧ body.Ok ∧ body.isNil = false
    | .repeatA body c => c.Ok ∧ body.Ok ∧ body.isNil = false
    | .callA inst n1 e1 more => inst.ty = "Identifier" ∧ n1.ty = "Identifier" ∧ e1.Ok ∧ ∀ m ∈ more, m.1.ty = "Identifier" ∧ m.2.Ok
    | .exitA => True
    | .returnA => True
  def Al.Ok : Al → Prop
    | .nil => True
    | .cons s rest => s.Ok ∧ rest.Ok
  def Ael.Ok : Ael → Prop
    | .nil => True
    | .cons c body rest => c.Ok ∧ body.Ok ∧ body.isNil = false ∧ rest.Ok
  def Ag.Ok : Ag → Prop
    | .nil => True
    | .cons d v more body rest =>
        d.ty = "Digits" ∧ integerNew d.text = some v ∧ (∀ m ∈ more, m.1.ty = "Digits" ∧ integerNew m.1.text = some m.2) ∧
        body.Ok ∧ body.isNil = false ∧ rest.Ok
end

theorem ex_wf {e : E} (h : e.Ok) : (ex e).WF 0 := E.full_wf kLp kRp rfl rfl e h 0
theorem ex_sx (e : E) : (ex e).sx = e.sx := E.full_sx kLp kRp e

theorem Al.pr_isNil : {l : Al} → l.isNil = false → l.pr.isNil = false
  | .cons .., _ => rfl

mutual
  theorem A.pr_sx : (a : A) → a.pr.sx = a.sx
    | .assign n e => by simp only [A.pr, St.sx, A.sx, ex_sx]
    | .ifA c body elifs .nil => by simp only [A.pr, St.sx, A.sx, ex_sx, Al.pr_sxs body, Ael.pr_sxs elifs, Al.sxs]
    | .ifA c body elifs (.cons s rest) => by
      simp only [A.pr, St.sx, A.sx, ex_sx, Al.pr_sxs body, Ael.pr_sxs elifs, Al.pr_sxs (.cons s rest)]
    | .caseA sel groups .nil => by simp only [A.pr, St.sx, A.sx, ex_sx, Ag.pr_sxs groups, Al.sxs]
    | .caseA sel groups (.cons s rest) => by simp only [A.pr, St.sx, A.sx, ex_sx, Ag.pr_sxs groups, Al.pr_sxs (.cons s rest)]
    | .forA ctl frm to step body => by
      simp only [A.pr, St.sx, A.sx, ex_sx, Al.pr_sxs body, Option.map_map, Function.comp_def]
    | .whileA c body | .repeatA body c => by simp only [A.pr, St.sx, A.sx, ex_sx, Al.pr_sxs body]
    | .callA inst n1 e1 more => by
      simp only [A.pr, St.sx, A.sx, prArgs, List.map_map, Function.comp_def, namedSx, ex_sx]
    | .exitA | .returnA => rfl
  theorem Al.pr_sxs : (l : Al) → l.pr.sxs = l.sxs
    | .nil => rfl
    | .cons s rest => by simp only [Al.pr, Stl.sxs, Al.sxs, A.pr_sx s, Al.pr_sxs rest]
  theorem Ael.pr_sxs : (l : Ael) → l.pr.sxs = l.sxs
    | .nil => rfl
    | .cons c body rest => by simp only [Ael.pr, Elifs.sxs, Ael.sxs, ex_sx, Al.pr_sxs body, Ael.pr_sxs rest]
  theorem Ag.pr_sxs : (l : Ag) → l.pr.sxs = l.sxs
    | .nil => rfl
    | .cons d v more body rest => by
      simp only [Ag.pr, Groups.sxs, Ag.sxs, groupSx, prSels, List.map_map, Function.comp_def, Al.pr_sxs body, Ag.pr_sxs rest]
end

mutual
  theorem A.pr_wf : (a : A) → a.Ok → a.pr.WF
    | .assign .., h => ⟨h.1, rfl, ex_wf h.2⟩
    | .ifA _ body elifs .nil, h => ⟨rfl, rfl, rfl, ex_wf h.1, Al.pr_wf body h.2.1, Ael.pr_wf elifs h.2.2.1⟩
    | .ifA _ body elifs (.cons s rest), h =>
        ⟨rfl, rfl, rfl, rfl, ex_wf h.1, Al.pr_wf body h.2.1, Al.pr_wf (.cons s rest) h.2.2.2, rfl, Ael.pr_wf elifs h.2.2.1⟩
    | .caseA _ groups .nil, h => ⟨rfl, rfl, rfl, ex_wf h.1, Ag.pr_wf groups h.2.1⟩
    | .caseA _ groups (.cons s rest), h =>
        ⟨rfl, rfl, rfl, rfl, ex_wf h.1, Ag.pr_wf groups h.2.1, Al.pr_wf (.cons s rest) h.2.2, rfl⟩
    | .forA _ _ _ step body, h =>
        ⟨rfl, h.1, rfl, rfl, rfl, rfl, ex_wf h.2.1, ex_wf h.2.2.1, Al.pr_wf body h.2.2.2.2.1, Al.pr_isNil h.2.2.2.2.2,
          match step, h.2.2.2.1 with
          | none, _ => trivial
          | some _, hst => ⟨rfl, ex_wf hst⟩⟩
    | .whileA _ body, h | .repeatA body _, h => ⟨rfl, rfl, rfl, ex_wf h.1, Al.pr_wf body h.2.1, Al.pr_isNil h.2.2⟩
    | .callA .., h =>
        ⟨h.1, rfl, rfl, h.2.1, rfl, ex_wf h.2.2.1,
          List.forall_mem_map.mpr fun x hx => ⟨rfl, (h.2.2.2 x hx).1, rfl, ex_wf (h.2.2.2 x hx).2⟩⟩
    | .exitA, _ | .returnA, _ => rfl
  theorem Al.pr_wf : (l : Al) → l.Ok → l.pr.WF
    | .nil, _ => trivial
    | .cons s rest, h => ⟨A.pr_wf s h.1, rfl, Al.pr_wf rest h.2⟩
  theorem Ael.pr_wf : (l : Ael) → l.Ok → l.pr.WF
    | .nil, _ => trivial
    | .cons _ body rest, h => ⟨rfl, rfl, ex_wf h.1, Al.pr_wf body h.2.1, Al.pr_isNil h.2.2.1, Ael.pr_wf rest h.2.2.2⟩
  theorem Ag.pr_wf : (l : Ag) → l.Ok → l.pr.WF
    | .nil, _ => trivial
    | .cons _ _ _ body rest, h =>
        ⟨h.1, h.2.1, List.forall_mem_map.mpr fun x hx => ⟨rfl, h.2.2.1 x hx⟩, rfl, Al.pr_wf body h.2.2.2.1,
          Al.pr_isNil h.2.2.2.2.1, Ag.pr_wf rest h.2.2.2.2.2⟩
end

end MX

import PlcModel.Lsp

/-! M-Lsp (C11, C12).  Everything about a session follows from what `step` does with one message
(a `cases m` that `rfl` closes) by induction over the list of messages. -/

/-- shutdown / exit: the two messages handled by the loop itself -/
def isCtl : Msg → Bool
  | .shutdown _ => true
  | .exit => true
  | _ => false

/-- the server loop over messages that are neither shutdown nor exit -/
def stepAll : Store → List Msg → Store × List Out
  | st, [] => (st, [])
  | st, m :: rest =>
    let r := step st m
    let r2 := stepAll r.1 rest
    (r2.1, r.2 ++ r2.2)

/-- ids of the requests among the messages -/
def reqIds : List Msg → List Nat
  | [] => []
  | .semTok id _ :: rest => id :: reqIds rest
  | .unknownReq id _ :: rest => id :: reqIds rest
  | .shutdown id :: rest => id :: reqIds rest
  | _ :: rest => reqIds rest

/-- ids carried by the responses among the outputs -/
def replyIds : List Out → List Nat
  | [] => []
  | .tokens id _ :: rest => id :: replyIds rest
  | .error id _ :: rest => id :: replyIds rest
  | .shutdownReply id :: rest => id :: replyIds rest
  | .publish .. :: rest => replyIds rest

/-- the (uri, version) of the edits (didOpen / didChange) among the messages -/
def edits : List Msg → List (Uri × Int)
  | [] => []
  | .didOpen u v _ :: rest => (u, v) :: edits rest
  | .didChange u v _ :: rest => (u, v) :: edits rest
  | _ :: rest => edits rest

/-- the (uri, version) of the publishDiagnostics among the outputs -/
def publishes : List Out → List (Uri × Int)
  | [] => []
  | .publish u v _ :: rest => (u, v) :: publishes rest
  | _ :: rest => publishes rest

/-- the last text written to file `k` by the edits of a history (starting from a given lookup) -/
def lastWrite (k : Nat) : List Msg → Option (List Char) → Option (List Char)
  | [], cur => cur
  | .didOpen (.file k') _ t :: rest, cur => lastWrite k rest (if k = k' then some t else cur)
  | .didChange (.file k') _ cs :: rest, cur =>
    lastWrite k rest (match cs.getLast? with
      | some t => if k = k' then some t else cur
      | none => cur)
  | _ :: rest, cur => lastWrite k rest cur

/-! ### the loop -/

theorem runFrom_cons {m : Msg} (hm : isCtl m = false) (st : Store) (rest : List Msg) (acc : List Out) :
    runFrom st (m :: rest) acc = runFrom (step st m).1 rest (acc ++ (step st m).2) := by
  cases m <;> first | rfl | cases hm

theorem runFrom_body (tail body : List Msg) (hb : ∀ m ∈ body, isCtl m = false) st acc :
    runFrom st (body ++ tail) acc = runFrom (stepAll st body).1 tail (acc ++ (stepAll st body).2) := by
  induction body generalizing st acc with
  | nil => simp [stepAll]
  | cons m rest ih =>
    rw [List.cons_append, runFrom_cons (hb m List.mem_cons_self), ih fun x hx => hb x (List.mem_cons_of_mem _ hx)]
    simp [stepAll]

/-- a session that ends properly: the body is stepped through, the shutdown is answered, status 0 -/
theorem run_session (body : List Msg) (hb : ∀ m ∈ body, isCtl m = false) (sid : Nat) :
    run (body ++ [.shutdown sid, .exit]) =
      ⟨(stepAll [] body).1, (stepAll [] body).2 ++ [.shutdownReply sid], .exited 0⟩ := by
  rw [run, runFrom_body _ body hb]
  rfl

theorem runFrom_exits (h : List Msg) st acc : ∃ c, (runFrom st h acc).phase = .exited c := by
  fun_induction runFrom st h acc with
  | case5 => assumption
  | _ => exact ⟨_, rfl⟩

/-! ### what the outputs show of the messages -/

theorem replyIds_append (a b : List Out) : replyIds (a ++ b) = replyIds a ++ replyIds b := by
  induction a with
  | nil => rfl
  | cons x xs ih => cases x <;> simp [replyIds, ih]

theorem publishes_append (a b : List Out) : publishes (a ++ b) = publishes a ++ publishes b := by
  induction a with
  | nil => rfl
  | cons x xs ih => cases x <;> simp [publishes, ih]

theorem replyIds_step {m : Msg} (hm : isCtl m = false) (st : Store) (rest : List Msg) :
    replyIds (step st m).2 ++ reqIds rest = reqIds (m :: rest) := by
  cases m <;> first | rfl | cases hm

theorem publishes_step (m : Msg) (st : Store) (rest : List Msg) :
    publishes (step st m).2 ++ edits rest = edits (m :: rest) := by
  cases m <;> rfl

theorem replyIds_stepAll (body : List Msg) (hb : ∀ m ∈ body, isCtl m = false) st :
    replyIds (stepAll st body).2 = reqIds body := by
  induction body generalizing st with
  | nil => rfl
  | cons m rest ih =>
    rw [stepAll, replyIds_append, ih fun x hx => hb x (List.mem_cons_of_mem _ hx), replyIds_step (hb m List.mem_cons_self)]

theorem publishes_stepAll (body : List Msg) st : publishes (stepAll st body).2 = edits body := by
  induction body generalizing st with
  | nil => rfl
  | cons m rest ih => rw [stepAll, publishes_append, ih, publishes_step]

/-! ### the document store is a canonical finite map -/

abbrev StrictSorted (st : Store) : Prop := st.Pairwise (·.1 < ·.1)

theorem getDoc_setDoc (st : Store) (k k' : Nat) (v : List Char) :
    getDoc (setDoc st k v) k' = if k' = k then some v else getDoc st k' := by
  fun_induction setDoc st k v with
  | case1 | case2 => rfl
  | case3 => simp only [getDoc]; split <;> rfl
  | case4 q w rest k v _ hne ih =>
    simp only [getDoc, ih]
    by_cases e : k' = k
    · simp [e, hne]
    · simp [e]

theorem mem_setDoc {p : Nat × List Char} {k : Nat} {v : List Char} {st : Store} (h : p ∈ setDoc st k v) :
    p = (k, v) ∨ p ∈ st := by
  fun_induction setDoc st k v with
  | case1 => simpa using h
  | case2 => exact List.mem_cons.mp h
  | case3 => exact (List.mem_cons.mp h).imp_right (List.mem_cons_of_mem _)
  | case4 q w rest k v _ _ ih =>
    rcases List.mem_cons.mp h with rfl | h
    · exact .inr List.mem_cons_self
    · exact (ih h).imp_right (List.mem_cons_of_mem _)

theorem strictSorted_setDoc (k : Nat) (v : List Char) {st : Store} (h : StrictSorted st) : StrictSorted (setDoc st k v) := by
  fun_induction setDoc st k v with
  | case1 => exact List.pairwise_singleton _ _
  | case2 q w rest k v hk =>
    exact List.pairwise_cons.mpr ⟨List.forall_mem_cons.mpr ⟨hk, fun p hp => Nat.lt_trans hk ((List.pairwise_cons.mp h).1 p hp)⟩, h⟩
  | case3 => exact List.pairwise_cons.mpr (List.pairwise_cons.mp h)
  | case4 q w rest k v hlt hne ih =>
    obtain ⟨hq, hr⟩ := List.pairwise_cons.mp h
    have hk : q < k := Nat.lt_of_le_of_ne (Nat.not_lt.mp hlt) (Ne.symm hne)
    exact List.pairwise_cons.mpr ⟨fun p hp => (mem_setDoc hp).elim (· ▸ hk) (hq p), ih hr⟩

theorem strictSorted_step {st : Store} (h : StrictSorted st) (m : Msg) : StrictSorted (step st m).1 := by
  have hc : ∀ u t, StrictSorted (changeText st u t) := fun u t => by
    cases u
    · exact strictSorted_setDoc _ _ h
    · exact h
  cases m <;> try exact h
  · exact hc _ _
  · simp only [step]; split
    · exact hc _ _
    · exact h

theorem strictSorted_stepAll (body : List Msg) {st : Store} (h : StrictSorted st) : StrictSorted (stepAll st body).1 := by
  induction body generalizing st with
  | nil => exact h
  | cons m rest ih => exact ih (strictSorted_step h m)

theorem getDoc_none_of_lt {st : Store} {k : Nat} (h : ∀ p ∈ st, k < p.1) : getDoc st k = none := by
  induction st with
  | nil => rfl
  | cons q rest ih =>
    simp [getDoc, Nat.ne_of_lt (h q List.mem_cons_self), ih fun p hp => h p (List.mem_cons_of_mem _ hp)]

theorem getDoc_lt_head {q : Nat × List Char} {t : Store} (h : StrictSorted (q :: t)) {k : Nat} (hk : k < q.1) :
    getDoc (q :: t) k = none :=
  getDoc_none_of_lt fun p hp => by
    rcases List.mem_cons.mp hp with rfl | hp
    · exact hk
    · exact Nat.lt_trans hk ((List.pairwise_cons.mp h).1 p hp)

theorem store_ext {s t : Store} (hs : StrictSorted s) (ht : StrictSorted t) (h : ∀ k, getDoc s k = getDoc t k) : s = t := by
  induction s generalizing t with
  | nil =>
    cases t with
    | nil => rfl
    | cons q _ => have := h q.1; simp [getDoc] at this
  | cons p s ih =>
    cases t with
    | nil => have := h p.1; simp [getDoc] at this
    | cons q t =>
      -- the smaller of two different first keys would be found in one store only
      have hk : p.1 = q.1 := by
        rcases Nat.lt_trichotomy p.1 q.1 with hlt | heq | hgt
        · have := h p.1; rw [getDoc_lt_head ht hlt] at this; simp [getDoc] at this
        · exact heq
        · have := h q.1; rw [getDoc_lt_head hs hgt] at this; simp [getDoc] at this
      have hv : p.2 = q.2 := by simpa [getDoc, hk] using h p.1
      have hpq : p = q := Prod.ext hk hv
      subst hpq
      have ⟨hs1, hs2⟩ := List.pairwise_cons.mp hs
      have ⟨ht1, ht2⟩ := List.pairwise_cons.mp ht
      congr 1
      refine ih hs2 ht2 fun k => ?_
      by_cases e : k = p.1
      · rw [e, getDoc_none_of_lt hs1, getDoc_none_of_lt ht1]
      · simpa [getDoc, e] using h k

theorem lastWrite_step (k : Nat) (st : Store) (m : Msg) (rest : List Msg) :
    lastWrite k (m :: rest) (getDoc st k) = lastWrite k rest (getDoc (step st m).1 k) := by
  cases m with
  | didOpen u v t => cases u <;> simp [step, changeText, lastWrite, getDoc_setDoc]
  | didChange u v cs =>
    cases u <;> simp only [step, lastWrite] <;> cases cs.getLast? <;> simp [changeText, getDoc_setDoc]
  | _ => rfl

theorem getDoc_stepAll (k : Nat) (body : List Msg) st : getDoc (stepAll st body).1 k = lastWrite k body (getDoc st k) := by
  induction body generalizing st with
  | nil => rfl
  | cons m rest ih => exact (ih _).trans (lastWrite_step k st m rest).symm

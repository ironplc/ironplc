import PlcProofs.Lemmas.MirrorStmt
import PlcModel.Parse.Pou

/-!
# Round trip of whole libraries through the parser mirror

`Parse.library` — the function behind the model's `parseProgram`, compared with `parse_program` on every run —
reads the token list of a sequence of declarations back to the library that was written, in source order, whenever
`library_element_declaration` reads each declaration whatever follows it (`library_reads`).  The files
`MirrorVars.lean` and `MirrorFb.lean` supply the declarations: programs, function blocks and functions whose body is
a statement list of `MirrorStmt.lean`.
-/

open P Parse

namespace MX

/-! ### a statement list as the body of a declaration -/

/-- in front of a non-empty statement list a rule fails whose first tokens start no statement -/
theorem Stl.first_none {α} {tys : List String} {V : P α} (hV : First tys V) (hS : ∀ s ∈ stmtStart, s ∉ tys)
    {l : Stl} (hl : l.WF) (hne : l.isNil = false) {T : List Item} : V (l.toks ++ T) = none := by
  cases l with
  | nil => cases hne
  | cons s semi rest =>
    obtain ⟨t, ts, hts, hstart⟩ := St.head s hl.1
    simp only [Stl.toks, hts, List.cons_append]
    exact hV.cons (hS _ hstart)

theorem first_sfc : ∀ n, First ["InitialStep"] (sequentialFunctionChart n)
  | 0 => First.fail
  | 1 => First.fail.bind _
  | _ + 2 => (((First.tok _).bind _).bind _).bind _

theorem fbBody_statements {l : Stl} (hl : l.WF) (hne : l.isNil = false) {K : Item} (R : List Item) (hK : isCloser K.ty = true) :
    fbBody (l.toks ++ K :: R) = some (.t "Statements" [.n "Statements" [("body", .l l.sxs)]], K :: R) := by
  -- not a sequential function chart: no INITIAL_STEP
  refine orElse_skip (bind_none (Stl.first_none (first_sfc _) (by decide) hl hne)) (orElse_some ?_)
  rw [bind_some (p := fun ts => statementList (fuelFor ts.length) ts) (statementList_roundtrip hl hne R hK)]
  rfl

/-! ### libraries -/

theorem first_dataType : First ["Type"] dataTypeDeclaration := (First.tok _).bind _
theorem first_function : First ["Function"] functionDeclaration := (First.tok _).bind _
theorem first_functionBlock : First ["FunctionBlock"] functionBlockDeclaration := (First.tok _).bind _
theorem first_program : First ["Program"] programDeclaration := (First.tok _).bind _
theorem first_configuration : First ["Configuration"] configurationDeclaration := (First.tok _).bind _

theorem first_libraryElement :
    First ["Type", "Function", "FunctionBlock", "Program", "Configuration"] libraryElementDeclaration :=
  (first_dataType.bind _).orElse ((first_function.bind _).orElse ((first_functionBlock.bind _).orElse
    ((first_program.bind _).orElse (first_configuration.bind _))))

/-- `library_element_declaration` on a function, a function block, a program: the rules before it do not start with
its keyword -/
theorem libraryElement_function {ts R : List Item} {f : Sx} (h : functionDeclaration ts = some (f, R)) :
    libraryElementDeclaration ts = some ([.t "FunctionDeclaration" [f]], R) := by
  obtain ⟨t, ts, rfl, ht⟩ := first_function.head h
  rw [List.mem_singleton] at ht
  exact orElse_skip ((first_dataType.bind _).ne (by simp [ht])) (orElse_some (bind_some h))

theorem libraryElement_functionBlock {ts R : List Item} {f : Sx} (h : functionBlockDeclaration ts = some (f, R)) :
    libraryElementDeclaration ts = some ([.t "FunctionBlockDeclaration" [f]], R) := by
  obtain ⟨t, ts, rfl, ht⟩ := first_functionBlock.head h
  rw [List.mem_singleton] at ht
  exact orElse_skip ((first_dataType.bind _).ne (by simp [ht]))
    (orElse_skip ((first_function.bind _).ne (by simp [ht])) (orElse_some (bind_some h)))

theorem libraryElement_program {ts R : List Item} {f : Sx} (h : programDeclaration ts = some (f, R)) :
    libraryElementDeclaration ts = some ([.t "ProgramDeclaration" [f]], R) := by
  obtain ⟨t, ts, rfl, ht⟩ := first_program.head h
  rw [List.mem_singleton] at ht
  exact orElse_skip ((first_dataType.bind _).ne (by simp [ht]))
    (orElse_skip ((first_function.bind _).ne (by simp [ht]))
      (orElse_skip ((first_functionBlock.bind _).ne (by simp [ht])) (orElse_some (bind_some h))))

/-- **`Parse.library` reads a sequence of declarations back as the library that was written**: if
`library_element_declaration` reads every declaration `a` of the sequence (tokens `toks a`) to the elements `elem a`
whatever follows, the library has these elements in source order, and the whole input is consumed. -/
theorem library_reads {α} (toks : α → List Item) (elem : α → List Sx) (xs : List α)
    (h : ∀ a ∈ xs, ∀ R, libraryElementDeclaration (toks a ++ R) = some (elem a, R)) :
    library (xs.flatMap toks) = some (.n "Library" [("elements", .l (xs.flatMap elem))]) := by
  have hc := chainW_of_reads first_libraryElement (by simp [isTrivia_eq_false]) toks elem xs h
  have hfl : flat (xs.map fun a => (elem a, toks a)) ++ [] = xs.flatMap toks := by simp [flat, List.flatMap_map]
  have hs := sepBy_chainW hc
  have hw := hc.ws_id
  rw [hfl] at hs hw
  unfold library
  rw [bind_some hw, bind_some hs, bind_some ws_nil]
  simp [pure_run, List.flatMap_def, List.map_map, Function.comp_def]

end MX

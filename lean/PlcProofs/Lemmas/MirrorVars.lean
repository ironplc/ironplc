import PlcProofs.Lemmas.MirrorLib

/-!
# Variable blocks

`Parse.varDeclarations` reads a block `VAR n1 : T1; … END_VAR` of variables of elementary type without initial values
back to the variables that were written: every variable, in order, with its name, class `Var`, no qualifier and its
type.  The block is the one the declarations of `MirrorFb.lean` may carry in front of their statements.
-/

open P Parse

namespace MX

/-- `name : TYPE` followed by its semicolon; `v` is the `ElementaryTypeName` variant the type token denotes -/
structure VarD where
  name : Item
  colon : Item
  ty : Item
  v : String
  semi : Item

namespace VarD

/-- without the semicolon: `semisep_reads` takes the tokens of an element and its semicolon apart -/
def toks (d : VarD) : List Item := [d.name, d.colon, d.ty]

def WF (d : VarD) : Prop :=
  d.name.ty = "Identifier" ∧ d.colon.ty = "Colon" ∧ d.semi.ty = "Semicolon" ∧
  (∀ R, elementaryTypeName (d.ty :: R) = some (d.v, R)) ∧ d.ty.ty ≠ "Identifier" ∧ d.ty.ty ≠ "String" ∧ d.ty.ty ≠ "WString" ∧
  d.ty.ty ≠ "Array" ∧ d.ty.ty ≠ "LeftParen" ∧ isTrivia d.ty.ty = false

/-- what `var_init_decl` returns for the declaration: the names with their initialiser -/
def pair (d : VarD) : Sx × Sx := (.a (txt d.name), sxSimpleInit (elementaryAsType d.v) none)

def sx (d : VarD) : Sx := sxVarDecl (.t "Symbol" [.a (txt d.name)]) "Var" "Unspecified" (sxSimpleInit (elementaryAsType d.v) none)

end VarD

/-- INT and BOOL tokens are elementary type names -/
theorem elementary_int (t : Item) (h : t.ty = "Int") : ∀ R, elementaryTypeName (t :: R) = some ("INT", R) := fun _ =>
  -- the second alternative of `integerTypeName`, after SINT
  orElse_some (orElse_skip (bind_none (tok_miss (by simp [h]))) (orElse_some (bind_some (tok_hit h))))

theorem elementary_bool (t : Item) (h : t.ty = "Bool") : ∀ R, elementaryTypeName (t :: R) = some ("BOOL", R) := by
  intro R
  simp only [elementaryTypeName, integerTypeName, realTypeName, dateTypeName, bitStringTypeName, orElse_run, bind_run, tok_cons, h,
    beq_iff_eq, String.reduceEq, if_false, if_true]
  rfl

/-! ### one declaration -/

theorem first_typeName : First ["Identifier"] typeName := first_identifier.bind _
theorem first_stringSpec (tk width : String) (str : P (List Char)) : First [tk] (stringSpec tk width str) := (First.tok _).bind _
theorem first_arraySpecInit : First ["Array"] arraySpecInit := ((First.tok _).bind _).bind _
theorem first_initializedStructure : First ["Identifier"] initializedStructureWithoutAmbiguous := first_typeName.bind _
theorem first_enumeratedSpecification : First ["LeftParen", "Identifier"] enumeratedSpecification :=
  (((First.tok _).bind _).bind _).orElse (first_typeName.bind _)

/-- a single name in front of `:`: the list of names ends there -/
theorem names_one {n c : Item} {T : List Item} (hn : n.ty = "Identifier") (hc : c.ty = "Colon") :
    sepBy1 identifier (do ws; comma; ws : P Unit) (n :: c :: T) = some ([.a (txt n)], c :: T) := by
  have hstop : (do let _ ← (do ws; comma; ws : P Unit); identifier : P Sx) (c :: T) = none := by
    apply bind_none
    rw [bind_some (ws_hd hc)]
    exact bind_none (comma_miss (by simp [hc]))
  exact sepBy1_cons (identifier_hit hn) (many_none hstop)

/-- the common head `names : ` of the alternatives of `var_init_decl` -/
theorem decl_head {β γ} {X : P β} {k : List Sx → β → γ} {n c : Item} {T : List Item}
    (hn : n.ty = "Identifier") (hc : c.ty = "Colon") (hws : ws T = some ((), T)) :
    (do let names ← var1List; ws; let _ ← tok "Colon"; ws; let i ← X; pure (k names i) : P γ) (n :: c :: T) =
      (X T).map (fun r => (k [.a (txt n)] r.1, r.2)) := by
  rw [bind_some (show var1List (n :: c :: T) = _ from names_one hn hc),
    bind_some (ws_hd hc), bind_some (tok_hit hc), bind_some hws, bind_run]
  cases X T <;> rfl

theorem decl_head_none {β γ} {X : P β} {k : List Sx → β → γ} {n c : Item} {T : List Item}
    (hn : n.ty = "Identifier") (hc : c.ty = "Colon") (hws : ws T = some ((), T)) (hX : X T = none) :
    (do let names ← var1List; ws; let _ ← tok "Colon"; ws; let i ← X; pure (k names i) : P γ) (n :: c :: T) = none := by
  rw [decl_head hn hc hws, hX]; rfl

/-- function block instances are declared `name, … , : T`, with a comma in front of the colon -/
theorem fbNameDecl_none {n c : Item} {T : List Item} (hn : n.ty = "Identifier") (hc : c.ty = "Colon") :
    fbNameDecl (n :: c :: T) = none :=
  bind_none ((bind_some (names_one hn hc)).trans (bind_none (comma_miss (by simp [hc]))))

/-- an elementary type name without an initial value (`;` follows), as `var1_init_decl` reads it -/
theorem ambiguousSpecInit_elementary {ty semi : Item} {v : String} {R : List Item}
    (hel : ∀ R, elementaryTypeName (ty :: R) = some (v, R)) (hni : ty.ty ≠ "Identifier") (hnp : ty.ty ≠ "LeftParen")
    (hs : semi.ty = "Semicolon") :
    ambiguousSpecInit (ty :: semi :: R) = some (sxSimpleInit (elementaryAsType v) none, semi :: R) := by
  have hsimple : simpleSpecification (ty :: semi :: R) = some (elementaryAsType v, semi :: R) :=
    orElse_some (bind_some (hel _))
  -- no `:=` behind the type
  have b1 : (do let s ← simpleSpecification; ws; let _ ← tok "Assignment"; ws; let c ← constant
                pure (sxSimpleInit s (some c)) : P Sx) (ty :: semi :: R) = none := by
    rw [bind_some hsimple, bind_some (ws_hd hs)]
    exact bind_none (tok_miss (by simp [hs]))
  exact orElse_skip b1 (orElse_skip ((first_enumeratedSpecification.bind _).cons (by simp [hni, hnp]))
    (orElse_skip (((First.tok _).bind _).ne hnp) (orElse_some (bind_some (hel _)))))

theorem varInitDecl_reads {d : VarD} (hd : d.WF) (R : List Item) :
    varInitDecl (d.toks ++ d.semi :: R) = some ([d.pair], d.semi :: R) := by
  obtain ⟨hn, hc, hs, hel, hni, hns, hnw, hna, hnp, hnt⟩ := hd
  have hws : ws (d.ty :: d.semi :: R) = some ((), d.ty :: d.semi :: R) := ws_cons hnt
  have hstr : stringVarDeclaration (d.name :: d.colon :: d.ty :: d.semi :: R) = none :=
    orElse_skip (decl_head_none hn hc hws ((first_stringSpec ..).ne hns)) (decl_head_none hn hc hws ((first_stringSpec ..).ne hnw))
  show varInitDecl (d.name :: d.colon :: d.ty :: d.semi :: R) = _
  -- the alternatives in order: a structure with initial values, strings, arrays, function block instances, strings again
  refine orElse_skip (decl_head_none hn hc hws (first_initializedStructure.ne hni)) (orElse_skip hstr
    (orElse_skip (decl_head_none hn hc hws (first_arraySpecInit.ne hna)) (orElse_skip (fbNameDecl_none hn hc) (orElse_skip hstr ?_))))
  rw [var1InitDeclWithAmbiguousStruct, decl_head hn hc hws, ambiguousSpecInit_elementary hel hni hnp hs]
  rfl

theorem first_varInitDecl : First ["Identifier"] varInitDecl :=
  have hv : First ["Identifier"] var1List := first_identifier.bind _
  have hs : First ["Identifier"] stringVarDeclaration := (hv.bind _).or (hv.bind _)
  (hv.bind _).or (hs.or ((hv.bind _).or ((((first_identifier.bind _).bind _).bind _).or (hs.or (hv.bind _)))))

/-! ### the block `VAR … END_VAR` -/

def declToks (ds : List VarD) : List Item := ds.flatMap fun d => d.toks ++ [d.semi]

/-- `flatMap` is `Parse.flatMap`, the mirror of `VarDeclarations::flat_map` -/
theorem flatMap_pairs (ds : List VarD) : flatMap (ds.map fun d => [d.pair]) "Var" none = ds.map VarD.sx := by
  rw [flatMap, ← List.flatMap_def, ← List.map_eq_flatMap, List.map_map]
  rfl

/-- `VAR d1; …; dn; END_VAR` (n ≥ 1) -/
theorem varDeclarations_reads {kVar kEnd : Item} {d : VarD} {ds : List VarD} (R : List Item)
    (hV : kVar.ty = "Var") (hE : kEnd.ty = "EndVar") (hwf : ∀ x ∈ d :: ds, x.WF) :
    varDeclarations (kVar :: (declToks (d :: ds) ++ kEnd :: R)) = some (.var ((d :: ds).map VarD.sx), R) := by
  have hKt : isTrivia kEnd.ty = false := by simp [isTrivia, hE]
  have hn : d.name.ty = "Identifier" := (hwf d (List.mem_cons_self ..)).1
  have hws0 : ws (declToks (d :: ds) ++ kEnd :: R) = some ((), declToks (d :: ds) ++ kEnd :: R) :=
    ws_hd hn
  have hopt : P.opt (do let _ ← tok "Constant"; pure "Constant" : P String) (declToks (d :: ds) ++ kEnd :: R)
      = some (none, declToks (d :: ds) ++ kEnd :: R) :=
    opt_none (bind_none (tok_miss (by simp [hn])))
  have hsemi : semisep varInitDecl (declToks (d :: ds) ++ kEnd :: R) = some ((d :: ds).map fun x => [x.pair], kEnd :: R) :=
    semisep_reads first_varInitDecl (by simp [isTrivia_eq_false]) VarD.toks VarD.semi _ kEnd R hKt (by simp [hE]) d ds fun x hx =>
      ⟨(hwf x hx).2.2.1, varInitDecl_reads (hwf x hx)⟩
  rw [varDeclarations, bind_some (tok_hit hV), bind_some hws0,
    bind_some hopt, bind_some hws0, bind_some hsemi, bind_some (ws_cons hKt),
    bind_some (tok_hit hE)]
  show some (VD.var (flatMap ((d :: ds).map fun x => [x.pair]) "Var" none), R) = _
  rw [flatMap_pairs]

/-! ### the alternatives for variable blocks in a declaration -/

theorem first_ioVar : First ["VarInput", "VarOutput", "VarInOut"] ioVarDeclarations :=
  ((First.tok _).bind _).orElse ((((First.tok _).bind _).bind _).orElse (((First.tok _).bind _).bind _))

theorem first_external : First ["VarExternal"] externalVarDeclarations := (First.tok _).bind _
theorem first_access : First ["VarAccess"] programAccessDecls := (First.tok _).bind _

theorem first_otherVar : First ["VarExternal", "Var"] otherVarDeclarations :=
  first_external.orElse (((First.tok _).bind _).or (((First.tok _).bind _).or (((First.tok _).bind _).or
    ((First.tok _).bind _))))

/-- a block that `var_declarations` reads is read by `other_var_declarations` -/
theorem otherVar_var {k : Item} {T : List Item} {r} (hk : k.ty = "Var") (h : varDeclarations (k :: T) = some r) :
    otherVarDeclarations (k :: T) = some r := by
  exact orElse_skip (first_external.ne (by simp [hk])) (orElse_some h)

end MX

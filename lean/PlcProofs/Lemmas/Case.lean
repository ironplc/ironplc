import PlcProofs.Lemmas.Lex

/-! Case closure of the token table: changing ASCII letter case anywhere in a text does not change
how it is cut into tokens (C08). -/

def swapCase (c : Char) : Char :=
  if 97 ≤ c.toNat ∧ c.toNat ≤ 122 then Char.ofNat (c.toNat - 32)
  else if 65 ≤ c.toNat ∧ c.toNat ≤ 90 then Char.ofNat (c.toNat + 32)
  else c

/-- re-spell a text: swap the case of the chars selected by the mask -/
def respell : List Bool → List Char → List Char
  | b :: bs, c :: cs => (if b then swapCase c else c) :: respell bs cs
  | _, cs => cs

/-- a character class treats the two cases of every ASCII letter alike -/
def classClosed (rs : List (Char × Char)) : Bool :=
  (List.range 26).all fun i => Re.inRanges rs (Char.ofNat (65 + i)) == Re.inRanges rs (Char.ofNat (97 + i))

def Re.closed : Re → Bool
  | .cls _ rs => classClosed rs
  | .seq a b => a.closed && b.closed
  | .alt a b => a.closed && b.closed
  | .star a => a.closed
  | _ => true

/-! ### what does not tell the two cases of a letter apart does not see a re-spelling -/

/-- `f` takes the same value on the two cases of every ASCII letter -/
abbrev CaseBlind {α} (f : Char → α) : Prop := ∀ i, i < 26 → f (Char.ofNat (65 + i)) = f (Char.ofNat (97 + i))

theorem CaseBlind.apply_swapCase {α} {f : Char → α} (h : CaseBlind f) (c : Char) : f (swapCase c) = f c := by
  unfold swapCase
  by_cases h1 : 97 ≤ c.toNat ∧ c.toNat ≤ 122
  · obtain ⟨i, hi⟩ := Nat.exists_eq_add_of_le h1.1
    rw [if_pos h1, hi, show 97 + i - 32 = 65 + i by omega, h i (by omega), ← hi, Char.ofNat_toNat]
  · by_cases h2 : 65 ≤ c.toNat ∧ c.toNat ≤ 90
    · obtain ⟨i, hi⟩ := Nat.exists_eq_add_of_le h2.1
      rw [if_neg h1, if_pos h2, hi, show 65 + i + 32 = 97 + i by omega, ← h i (by omega), ← hi, Char.ofNat_toNat]
    · rw [if_neg h1, if_neg h2]

theorem CaseBlind.ite {α} {f : Char → α} (h : CaseBlind f) (b : Bool) (c : Char) :
    f (if b then swapCase c else c) = f c := by
  cases b
  · rfl
  · exact h.apply_swapCase c

theorem respell_cons (b : Bool) (bs : List Bool) (c : Char) (cs : List Char) :
    respell (b :: bs) (c :: cs) = (if b then swapCase c else c) :: respell bs cs := rfl

theorem respell_nil_mask (s : List Char) : respell [] s = s := by cases s <;> rfl

theorem CaseBlind.map_respell {α} {f : Char → α} (h : CaseBlind f) (mask : List Bool) (s : List Char) :
    (respell mask s).map f = s.map f := by
  fun_induction respell mask s with
  | case1 b bs c cs ih => rw [List.map_cons, List.map_cons, h.ite, ih]
  | case2 => rfl

theorem respell_length (mask : List Bool) (s : List Char) : (respell mask s).length = s.length := by
  simpa using congrArg List.length (CaseBlind.map_respell (f := fun _ => ()) (fun _ _ => rfl) mask s)

theorem respell_take (mask : List Bool) (s : List Char) (n : Nat) :
    (respell mask s).take n = respell (mask.take n) (s.take n) := by
  induction s generalizing mask n with
  | nil => cases mask <;> cases n <;> rfl
  | cons c cs ih =>
    cases mask with
    | nil => cases n <;> rfl
    | cons b bs =>
      cases n with
      | zero => rfl
      | succ n => simp [respell_cons, ih]

theorem respell_drop (mask : List Bool) (s : List Char) (n : Nat) :
    (respell mask s).drop n = respell (mask.drop n) (s.drop n) := by
  induction s generalizing mask n with
  | nil => cases mask <;> cases n <;> simp [respell]
  | cons c cs ih =>
    cases mask with
    | nil => cases n <;> simp [respell_nil_mask]
    | cons b bs =>
      cases n with
      | zero => simp
      | succ n => simp [respell_cons, ih]

theorem utf8Len_respell (mask : List Bool) (s : List Char) : utf8Len (respell mask s) = utf8Len s := by
  unfold utf8Len
  rw [CaseBlind.map_respell (by decide +kernel)]

theorem advancePos_respell (mask : List Bool) (s : List Char) (l c : Nat) :
    advancePos (respell mask s) l c = advancePos s l c := by
  -- `advancePos` sees of a char only whether it is a line feed, and its length in bytes
  have key : ∀ s : List Char, advancePos s l c =
      (s.map fun ch => (ch == '\n', ch.utf8Size)).foldl
        (fun (lc : Nat × Nat) p => if p.1 then (lc.1 + 1, 0) else (lc.1, lc.2 + p.2)) (l, c) :=
    fun s => by rw [List.foldl_map]; rfl
  rw [key, key, CaseBlind.map_respell (by decide +kernel)]

theorem isOpener_respell (s : List Char) (mask : List Bool) : isOpener (respell mask s) = isOpener s := by
  -- `isOpener` looks at the first two characters, and only at whether they are `'`, `"`, `(` and `*`
  have spec : ∀ l : List Char, isOpener l =
      (((l.map (· == '\'')).head? == some true) || ((l.map (· == '"')).head? == some true) ||
        ((l.map (· == '(')).head? == some true && ((l.map (· == '*')).tail.head? == some true))) := by
    intro l
    unfold isOpener
    split
    · rfl
    · rfl
    · rfl
    · -- no pattern applies: none of the three alternatives holds
      match l with
      | [] => rfl
      | [c] => simp_all
      | c :: c2 :: rest => simp_all
  rw [spec, spec, CaseBlind.map_respell (by decide +kernel), CaseBlind.map_respell (by decide +kernel), CaseBlind.map_respell (by decide +kernel),
    CaseBlind.map_respell (by decide +kernel)]

/-! ### closed patterns -/

/-- no ASCII letter is a Unicode decimal digit -/
theorem isNd_caseBlind : CaseBlind isNd := by decide +kernel

theorem deriv_caseBlind {r : Re} (h : r.closed = true) : CaseBlind (Re.deriv isNd · r) := by
  intro i hi
  induction r with
  | empty | eps => rfl
  | digit => simp only [Re.deriv, isNd_caseBlind i hi]
  | cls neg rs =>
    have := List.all_eq_true.mp h i (List.mem_range.mpr hi)
    simp only [Re.deriv, beq_iff_eq.mp this]
  | seq a b iha ihb | alt a b iha ihb =>
    simp only [Re.closed, Bool.and_eq_true] at h
    simp only [Re.deriv, iha h.1, ihb h.2]
  | star a iha => simp only [Re.deriv, iha h]

theorem closed_mkSeq {a b : Re} (ha : a.closed = true) (hb : b.closed = true) : (Re.mkSeq a b).closed = true := by
  unfold Re.mkSeq
  split <;> simp [*, Re.closed]

theorem closed_mkAlt {a b : Re} (ha : a.closed = true) (hb : b.closed = true) : (Re.mkAlt a b).closed = true := by
  unfold Re.mkAlt
  split
  · exact hb
  · exact ha
  · split <;> simp [*, Re.closed]

theorem closed_deriv (r : Re) (h : r.closed = true) (c : Char) : (Re.deriv isNd c r).closed = true := by
  induction r with
  | empty | eps => rfl
  | digit | cls => simp only [Re.deriv]; split <;> rfl
  | seq a b iha ihb =>
    simp only [Re.closed, Bool.and_eq_true] at h
    simp only [Re.deriv]
    split
    · exact closed_mkAlt (closed_mkSeq (iha h.1) h.2) (ihb h.2)
    · exact closed_mkSeq (iha h.1) h.2
  | alt a b iha ihb =>
    simp only [Re.closed, Bool.and_eq_true] at h
    exact closed_mkAlt (iha h.1) (ihb h.2)
  | star a iha => exact closed_mkSeq (iha h) h

theorem longestGo_respell (r : Re) (h : r.closed = true) (s : List Char) (mask : List Bool) (n : Nat) (best : Option Nat) :
    Re.longestGo isNd r (respell mask s) n best = Re.longestGo isNd r s n best := by
  fun_induction respell mask s generalizing r n best with
  | case1 b bs c cs ih => simp only [Re.longestGo, (deriv_caseBlind h).ite b c, ih _ (closed_deriv r h c)]
  | case2 => rfl

theorem longest_respell (r : Re) (h : r.closed = true) (s : List Char) (mask : List Bool) :
    Re.longest isNd r (respell mask s) = Re.longest isNd r s :=
  longestGo_respell r h s mask 0 _

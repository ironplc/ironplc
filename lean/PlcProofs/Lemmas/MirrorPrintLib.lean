import PlcProofs.Lemmas.MirrorPrint
import PlcProofs.Lemmas.MirrorFb

/-!
# Declarations and the renderer's printing of them

Programs, function blocks and functions as the dsl holds them (`APou`: a name, variables of elementary type, a statement
tree list) are written the way `plc2plc` writes them — `PROGRAM name [VAR n : T; … END_VAR] statements END_PROGRAM`, … .
The result is a well-formed `Pou` of `MirrorFb` whose library element is the declaration that was printed (`APou.pr_wf`,
`APou.pr_elem`); that `Parse.library` reads any sequence of them back is `C10.mirror_reads_printed_library`.
-/

open P Parse

namespace MX

/-- a variable of elementary type: its name, the type keyword and the variant that keyword reads as -/
structure AVarD where
  name : Item
  ty : Item
  v : String

namespace AVarD

def pr (d : AVarD) : VarD := ⟨d.name, kColon, d.ty, d.v, kSemi⟩

def Ok (d : AVarD) : Prop :=
  d.name.ty = "Identifier" ∧ (∀ R, elementaryTypeName (d.ty :: R) = some (d.v, R)) ∧ d.ty.ty ≠ "Identifier" ∧ d.ty.ty ≠ "String" ∧
  d.ty.ty ≠ "WString" ∧ d.ty.ty ≠ "Array" ∧ d.ty.ty ≠ "LeftParen" ∧ isTrivia d.ty.ty = false

/-- the variable declaration node of the dsl -/
def sx (d : AVarD) : Sx := sxVarDecl (.t "Symbol" [.a (txt d.name)]) "Var" "Unspecified" (sxSimpleInit (elementaryAsType d.v) none)

theorem pr_wf (d : AVarD) (h : d.Ok) : d.pr.WF := ⟨h.1, rfl, rfl, h.2⟩

theorem pr_sx (d : AVarD) : d.pr.sx = d.sx := rfl

end AVarD

inductive APou where
  | prog (name : Item) (vars : List AVarD) (body : Al)
  | fb (name : Item) (vars : List AVarD) (body : Al)
  /-- `rty` the return type keyword, `v` the variant it reads as -/
  | fn (name rty : Item) (v : String) (body : Al)

namespace APou

def varBlock : List AVarD → Option (Item × VarD × List VarD × Item)
  | [] => none
  | d :: ds => some (kw "Var" "VAR", d.pr, ds.map AVarD.pr, kw "EndVar" "END_VAR")

/-- the renderer's printing of a declaration, as a token tree of `MirrorFb` -/
def pr : APou → Pou
  | .prog name [] body => .prog (.plain ⟨kw "Program" "PROGRAM", name, body.pr, kw "EndProgram" "END_PROGRAM"⟩)
  | .prog name (d :: ds) body =>
      .prog (.withVars ⟨kw "Program" "PROGRAM", name, kw "Var" "VAR", d.pr, ds.map AVarD.pr, kw "EndVar" "END_VAR", body.pr,
        kw "EndProgram" "END_PROGRAM"⟩)
  | .fb name vars body => .fb ⟨kw "FunctionBlock" "FUNCTION_BLOCK", name, varBlock vars, body.pr, kw "EndFunctionBlock" "END_FUNCTION_BLOCK"⟩
  | .fn name rty v body => .fn ⟨kw "Function" "FUNCTION", name, kColon, rty, v, body.pr, kw "EndFunction" "END_FUNCTION"⟩

def Ok : APou → Prop
  | .prog name vars body => name.ty = "Identifier" ∧ (∀ d ∈ vars, d.Ok) ∧ body.Ok ∧ body.isNil = false
  | .fb name vars body =>
      name.ty = "Identifier" ∧ eqIgnoreAsciiCase name.text "END_VAR".toList = false ∧ (∀ d ∈ vars, d.Ok) ∧ body.Ok ∧ body.isNil = false
  | .fn name rty v body =>
      name.ty = "Identifier" ∧ (∀ R, elementaryTypeName (rty :: R) = some (v, R)) ∧ isTrivia rty.ty = false ∧ body.Ok ∧ body.isNil = false

/-- the library element of the dsl for a declaration -/
def elem : APou → Sx
  | .prog name vars body =>
      .t "ProgramDeclaration" [.n "ProgramDeclaration" [("name", .a (txt name)), ("variables", .l (vars.map AVarD.sx)),
        ("access_variables", .l []), ("body", .t "Statements" [.n "Statements" [("body", .l body.sxs)]])]]
  | .fb name vars body =>
      .t "FunctionBlockDeclaration" [.n "FunctionBlockDeclaration" [("name", .a (txt name)), ("variables", .l (vars.map AVarD.sx)),
        ("edge_variables", .l []), ("body", .t "Statements" [.n "Statements" [("body", .l body.sxs)]])]]
  | .fn name _ v body =>
      .t "FunctionDeclaration" [.n "FunctionDeclaration" [("name", .a (txt name)), ("return_type", elementaryAsType v), ("variables", .l []),
        ("edge_variables", .l []), ("body", .l body.sxs)]]

theorem map_pr_sx (ds : List AVarD) : (ds.map AVarD.pr).map VarD.sx = ds.map AVarD.sx := by rw [List.map_map]; rfl

theorem map_pr_wf (ds : List AVarD) (h : ∀ d ∈ ds, d.Ok) : ∀ x ∈ ds.map AVarD.pr, x.WF :=
  List.forall_mem_map.mpr fun d hd => AVarD.pr_wf d (h d hd)

theorem varBlock_wf : (vars : List AVarD) → (∀ d ∈ vars, d.Ok) → Fb.varsWF (varBlock vars)
  | [], _ => trivial
  | d :: ds, h => ⟨rfl, rfl, map_pr_wf (d :: ds) h⟩

theorem varBlock_sx : (vars : List AVarD) → Fb.varSx (varBlock vars) = vars.map AVarD.sx
  | [] => rfl
  | d :: ds => map_pr_sx (d :: ds)

theorem pr_wf : (a : APou) → a.Ok → a.pr.WF
  | .prog _ [] body, h => ⟨rfl, h.1, rfl, Al.pr_wf body h.2.2.1, Al.pr_isNil h.2.2.2⟩
  | .prog _ (d :: ds) body, h =>
    ⟨rfl, h.1, rfl, rfl, rfl, map_pr_wf (d :: ds) h.2.1, Al.pr_wf body h.2.2.1, Al.pr_isNil h.2.2.2⟩
  | .fb _ vars body, h =>
    ⟨rfl, h.1, h.2.1, rfl, Al.pr_wf body h.2.2.2.1, Al.pr_isNil h.2.2.2.2, varBlock_wf vars h.2.2.1⟩
  | .fn _ _ _ body, h => ⟨rfl, h.1, rfl, rfl, h.2.1, h.2.2.1, Al.pr_wf body h.2.2.2.1, Al.pr_isNil h.2.2.2.2⟩

theorem pr_elem : (a : APou) → a.pr.elem = a.elem
  | .prog name [] body => by simp only [pr, Pou.elem, AnyProg.sx, Prog.sx, elem, Al.pr_sxs, List.map_nil]
  | .prog name (d :: ds) body => by
    simp only [pr, Pou.elem, AnyProg.sx, ProgV.sx, elem, Al.pr_sxs, List.map_cons, map_pr_sx, AVarD.pr_sx]
  | .fb name vars body => by simp only [pr, Pou.elem, Fb.sx, elem, Al.pr_sxs, varBlock_sx]
  | .fn name rty v body => by simp only [pr, Pou.elem, Fn.sx, elem, Al.pr_sxs]

end APou

end MX

import PlcModel.SemTok
import PlcProofs.Lemmas.Lex

/-! For C15: the order on positions under which the relative encoding is invertible (`Le2`, `SortedFrom`; the inverse itself is
`C15.rel_roundtrip`), the order of the highlighted lexemes, and legend soundness as a Boolean over the generated tables.  C15 is read leniently where LSP leaves a choice: a
token type may be given any of the standard token type names that fit its lexeme class (`admissibleOf`). -/

/-- lexicographic `≤` on (line, col) -/
def Le2 (l c l' c' : Nat) : Prop := l < l' ∨ (l' = l ∧ c ≤ c')

theorem Le2.refl (l c : Nat) : Le2 l c l c := Or.inr ⟨rfl, Nat.le_refl _⟩

theorem Le2.trans {a b c d e f : Nat} (h1 : Le2 a b c d) (h2 : Le2 c d e f) : Le2 a b e f := by
  rcases h1 with h1 | ⟨rfl, h1⟩ <;> rcases h2 with h2 | ⟨rfl, h2⟩
  · exact .inl (Nat.lt_trans h1 h2)
  · exact .inl h1
  · exact .inl h2
  · exact .inr ⟨rfl, Nat.le_trans h1 h2⟩

/-- `ts` is sorted by position starting at or after `(l, c)`: every token is non-empty and the next
one starts on a later line, or on the same line at or after the column where this one ends. -/
def SortedFrom : Nat → Nat → List AbsTok → Prop
  | _, _, [] => True
  | l, c, t :: ts =>
    Le2 l c t.line t.col ∧ 0 < t.len ∧
    (∀ t', ts.head? = some t' → t.line < t'.line ∨ (t'.line = t.line ∧ t.col + t.len ≤ t'.col)) ∧
    SortedFrom t.line t.col ts

theorem SortedFrom.weaken {l c l' c' : Nat} {ts : List AbsTok} (h : SortedFrom l c ts)
    (hle : Le2 l' c' l c) : SortedFrom l' c' ts := by
  cases ts with
  | nil => trivial
  | cons t ts => exact ⟨hle.trans h.1, h.2.1, h.2.2.1, h.2.2.2⟩

theorem SortedFrom.head_le {l c : Nat} {ts : List AbsTok} (h : SortedFrom l c ts) {t : AbsTok}
    (ht : ts.head? = some t) : Le2 l c t.line t.col := by
  cases ts with
  | nil => cases ht
  | cons t' ts => cases ht; exact h.1

theorem advancePos_le2 (txt : List Char) (l c : Nat) :
    Le2 l (c + utf8Len txt) (advancePos txt l c).1 (advancePos txt l c).2 := by
  by_cases h : '\n' ∈ txt
  · exact .inl (advancePos_line txt l c ▸ Nat.lt_add_of_pos_right (List.count_pos_iff.mpr h))
  · exact .inr (advancePos_no_nl h l c ▸ ⟨rfl, Nat.le_refl _⟩)

theorem hl1_eq_some {it : Item} {t : AbsTok} (h : hl1 it = some t) :
    it.err = false ∧ legendOf it.ty = some t.ty ∧ t.line = it.line ∧ t.col = it.col ∧ t.len = utf8Len it.text := by
  unfold hl1 at h
  split at h
  · cases h
  · rename_i he
    obtain ⟨i, hi, rfl⟩ := Option.map_eq_some_iff.mp h
    exact ⟨Bool.eq_false_iff.mpr he, hi, rfl, rfl, rfl⟩

theorem Cuts.highlight_sorted {s r : List Char} {off l c : Nat} {items : List Item} (h : Cuts s off l c items r) :
    ∀ {l0 c0}, Le2 l0 c0 l c → SortedFrom l0 c0 (highlight items) := by
  induction h with
  | nil => exact fun _ => trivial
  | @cons it _ _ _ _ l c hne _ _ hl hc _ ih =>
    intro l0 c0 hle
    have hadv := advancePos_le2 it.text l c
    have hstep : Le2 l c (advancePos it.text l c).1 (advancePos it.text l c).2 := .trans (.inr ⟨rfl, Nat.le_add_right ..⟩) hadv
    unfold highlight at ih ⊢
    rw [List.filterMap_cons]
    split
    · exact ih (hle.trans hstep)
    · rename_i t ht
      obtain ⟨_, _, htl, htc, hlen⟩ := hl1_eq_some ht
      have htail := ih (Le2.refl _ _)
      rw [SortedFrom, htl, htc, hlen, hl, hc]
      exact ⟨hle, utf8Len_pos hne, fun t' ht' => hadv.trans (htail.head_le ht'), htail.weaken hstep⟩

/-! ### legend soundness as a Boolean over the generated tables -/

def wordOps : List String := ["Or", "Xor", "And", "Not", "Mod"]
def punctOps : List String := [":=", "+", "-", "*", "/", "**", "=", "<>", "<", ">", "<=", ">=", "&"]

def isAsciiAlpha (c : Char) : Bool := ('a' ≤ c && c ≤ 'z') || ('A' ≤ c && c ≤ 'Z')

/-- admissible LSP token type names for one table entry (lenient reading of C15) -/
def admissibleOf (e : Gen.Entry) : List String :=
  if !e.isRegex then
    match e.text.toList.head? with
    | some c =>
      if isAsciiAlpha c then
        if wordOps.contains e.ty then ["operator", "keyword"]
        else if e.ty == "String" || e.ty == "WString" then ["keyword", "string", "type"]
        else ["keyword", "modifier", "type"]
      else if punctOps.contains e.text then ["operator"]
      else if e.text == ".." || e.text == "=>" then ["keyword", "operator"]
      else ["operator"]
    | none => []
  else if e.ty == "Identifier" then ["variable"]
  else if e.ty == "Comment" then ["comment"]
  else if e.ty == "DirectAddress" || e.ty == "DirectAddressIncomplete" then ["operator", "variable"]
  else if e.ty == "SingleByteString" || e.ty == "DoubleByteString" then ["string"]
  else if e.ty == "Whitespace" || e.ty == "Newline" then []
  else ["number"]

def admissible (v : String) : List String := (Gen.table.filter (·.ty == v)).flatMap admissibleOf

/-- the legend indices given to the word operators (OR XOR AND NOT MOD) -/
def wordOpClasses : List (Option Nat) :=
  wordOps.filterMap fun v => (Gen.legendMap.find? (·.1 == v)).map (·.2)

def legendSoundB : Bool :=
  (Gen.legendMap.all fun p =>
    match p.2 with
    | none => true
    | some i =>
      match Gen.legend[i]? with
      | none => false
      | some name => (admissible p.1).contains name)
  -- the lenient reading lets the word operators be `operator` or `keyword`, but all of them alike
  && (match wordOpClasses with
      | [] => true
      | c :: cs => cs.all (· == c))

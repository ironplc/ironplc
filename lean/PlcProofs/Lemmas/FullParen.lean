/-!
# Fully parenthesised printing is read back by precedence climbing — for every precedence table

Model of what `visit_binary_expr` / `visit_compare_expr` / `visit_unary_expr` of the renderer write
(every binary or comparison node in parentheses; a unary operator directly before its operand, the
operand in parentheses only when it is itself a unary expression) and of how `expression()` of the
parser reads it (rust-peg `precedence!` climbing; `unary_expression = unary_operator? primary_expression`;
`primary_expression` = an atom or `( expression )`).  Atoms (constants, variables, calls) are opaque.
-/

namespace FullParen

structure Op where
  id : Nat
  prec : Nat
deriving DecidableEq, Repr

inductive Tok where
  | atom (n : Nat)
  | op (o : Op)
  | uop (u : Nat)
  | lp
  | rp
deriving DecidableEq, Repr

inductive Expr where
  | leaf (n : Nat)
  | un (u : Nat) (e : Expr)
  | bin (o : Op) (l r : Expr)
deriving DecidableEq, Repr

inductive Res where
  | ok (e : Expr) (rest : List Tok)
  | fail
  | oof
deriving DecidableEq, Repr

mutual
  def parseE : Nat → Nat → List Tok → Res
    | 0, _, _ => .oof
    | fuel+1, minp, ts =>
      match parseAtom fuel ts with
      | .ok lhs ts' => loop fuel minp lhs ts'
      | .fail => .fail
      | .oof => .oof
  /-- `unary_expression`: an optional unary operator, then a primary expression -/
  def parseAtom : Nat → List Tok → Res
    | 0, _ => .oof
    | fuel+1, .uop u :: ts =>
      match parsePrimary fuel ts with
      | .ok e ts' => .ok (.un u e) ts'
      | .fail => .fail
      | .oof => .oof
    | fuel+1, ts => parsePrimary fuel ts
  def parsePrimary : Nat → List Tok → Res
    | 0, _ => .oof
    | _+1, .atom n :: ts => .ok (.leaf n) ts
    | fuel+1, .lp :: ts =>
      match parseE fuel 0 ts with
      | .ok e (.rp :: ts') => .ok e ts'
      | .ok _ _ => .fail
      | .fail => .fail
      | .oof => .oof
    | _+1, _ => .fail
  def loop : Nat → Nat → Expr → List Tok → Res
    | 0, _, _, _ => .oof
    | fuel+1, minp, lhs, ts =>
      match ts with
      | .op o :: ts' =>
        if minp ≤ o.prec then
          match parseE fuel (o.prec + 1) ts' with
          | .ok rhs ts'' => loop fuel minp (.bin o lhs rhs) ts''
          | .fail => .ok lhs ts
          | .oof => .oof
        else .ok lhs ts
      | _ => .ok lhs ts
end

/-- the renderer's printing: every binary node parenthesised; a unary operand parenthesised only
when it is a unary expression itself -/
def prFull : Expr → List Tok
  | .leaf n => [.atom n]
  | .un u (.un v e) => .uop u :: .lp :: (prFull (.un v e) ++ [.rp])
  | .un u e => .uop u :: prFull e
  | .bin o l r => .lp :: (prFull l ++ .op o :: (prFull r ++ [.rp]))

/-- `rest` does not start with a binary operator -/
def NoOp : List Tok → Prop
  | .op _ :: _ => False
  | _ => True

theorem loop_noop {f minp : Nat} {e : Expr} {rest : List Tok} (h : NoOp rest) :
    loop (f + 1) minp e rest = .ok e rest := by
  match rest, h with
  | [], _ | .atom _ :: _, _ | .uop _ :: _, _ | .lp :: _, _ | .rp :: _, _ => rfl

def isUn : Expr → Bool
  | .un _ _ => true
  | _ => false

theorem prFull_un (u : Nat) (e : Expr) :
    prFull (.un u e) = .uop u :: if isUn e then .lp :: (prFull e ++ [.rp]) else prFull e := by
  cases e <;> rfl

/-- an operand followed by no operator is the whole expression, at any minimum precedence -/
theorem parseE_of_atom {f m : Nat} {ts rest : List Tok} {e : Expr}
    (h : parseAtom (f + 1) ts = .ok e rest) (hn : NoOp rest) : parseE (f + 2) m ts = .ok e rest := by
  rw [parseE, h]
  exact loop_noop hn

theorem parsePrimary_paren {f : Nat} {ts rest : List Tok} {e : Expr}
    (h : parseE (f + 1) 0 ts = .ok e (.rp :: rest)) : parsePrimary (f + 2) (.lp :: ts) = .ok e rest := by
  rw [parsePrimary, h]

/-- Main lemma.  With enough fuel `parseAtom` reads the printing of a tree back, whatever follows,
and if the tree is not a unary expression `parsePrimary` does so too (one level less fuel). -/
theorem atom_primary (e : Expr) : ∃ k, ∀ f, k ≤ f → ∀ rest,
    parseAtom (f + 1) (prFull e ++ rest) = .ok e rest ∧
    (isUn e = false → parsePrimary f (prFull e ++ rest) = .ok e rest) := by
  induction e with
  | leaf n =>
    refine ⟨1, fun f hf rest => ?_⟩
    obtain ⟨f, rfl⟩ := Nat.exists_eq_add_of_le' hf
    exact ⟨rfl, fun _ => rfl⟩
  | bin o l r ihl ihr =>
    obtain ⟨kl, ihl⟩ := ihl
    obtain ⟨kr, ihr⟩ := ihr
    refine ⟨kl + kr + 5, fun f hf rest => ?_⟩
    obtain ⟨f, rfl⟩ := Nat.exists_eq_add_of_le' (Nat.le_of_add_left_le hf)
    have hf : kl + kr ≤ f := Nat.le_of_add_le_add_right hf
    have hprim : parsePrimary (f + 5) (prFull (.bin o l r) ++ rest) = .ok (.bin o l r) rest := by
      have e1 : prFull (.bin o l r) ++ rest = .lp :: (prFull l ++ .op o :: (prFull r ++ .rp :: rest)) := by
        simp [prFull]
      rw [e1]
      apply parsePrimary_paren
      -- `l`, then the loop takes `op` and reads `r` one level up; `)` ends both
      rw [parseE, (ihl (f + 2) (Nat.le_add_right_of_le (Nat.le_of_add_right_le hf)) _).1]
      simp only  -- reduces the `match` on `.ok`
      rw [loop, if_pos (Nat.zero_le _), parseE_of_atom (ihr f (Nat.le_of_add_left_le hf) (.rp :: rest)).1 trivial]
      exact loop_noop trivial
    exact ⟨hprim, fun _ => hprim⟩
  | un u e ih =>
    obtain ⟨k, ih⟩ := ih
    refine ⟨k + 3, fun f hf rest => ⟨?_, nofun⟩⟩
    obtain ⟨f, rfl⟩ := Nat.exists_eq_add_of_le' (Nat.le_of_add_left_le hf)
    rw [prFull_un, List.cons_append, parseAtom]
    cases h : isUn e
    · rw [if_neg Bool.false_ne_true, (ih (f + 3) (Nat.le_of_add_right_le hf) rest).2 h]
    · rw [if_pos rfl, List.cons_append, List.append_assoc, List.singleton_append,
        parsePrimary_paren (parseE_of_atom (ih f (Nat.le_of_add_le_add_right hf) (.rp :: rest)).1 trivial)]

/-- Round trip of the renderer's expression printing, for every precedence assignment and every
minimum precedence the expression is read at. -/
theorem roundtrip (e : Expr) (minp : Nat) (rest : List Tok) (h : NoOp rest) :
    ∃ fuel, parseE fuel minp (prFull e ++ rest) = .ok e rest :=
  have ⟨k, hk⟩ := atom_primary e
  ⟨k + 2, parseE_of_atom (hk k (Nat.le_refl _) rest).1 h⟩

-- sanity: - ( - a ) * ( b + NOT c ) with arbitrary precedences
def mul : Op := ⟨0, 3⟩
def add : Op := ⟨1, 7⟩   -- deliberately "wrong" precedences: the parentheses make them irrelevant
def ex1 : Expr := .bin mul (.un 0 (.un 0 (.leaf 1))) (.bin add (.leaf 2) (.un 1 (.leaf 3)))
example : parseE 20 0 (prFull ex1) = .ok ex1 [] := by decide

end FullParen

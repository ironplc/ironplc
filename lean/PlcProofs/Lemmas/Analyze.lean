import PlcModel.Analyze

/-! Lemmas about M-Analyze: groups, duplicate detection, the pipeline as a chain of aborting stages. -/

theorem grp_eq_nil_iff (l : List Nat) : grp l = [] ↔ l = [] := by
  unfold grp
  cases l <;> simp

theorem mem_grp_flatten (l : List Nat) (c : Nat) : c ∈ (grp l).flatten ↔ c ∈ l := by
  unfold grp
  cases l <;> simp

/-- a rule that collects, over the sites `v ∈ g d` of every declaration `d`, the answers of a test that has one code -/
theorem mem_sites_code {α β} {ds : List α} {g : α → List β} {site : α → β → Option Nat} {code : Nat} {P : α → β → Prop}
    (h : ∀ d v c, site d v = some c ↔ P d v ∧ code = c) (c : Nat) :
    c ∈ (grp (ds.flatMap fun d => (g d).filterMap (site d))).flatten ↔ c = code ∧ ∃ d ∈ ds, ∃ v ∈ g d, P d v := by
  simp only [mem_grp_flatten, List.mem_flatMap, List.mem_filterMap, h]
  constructor
  · rintro ⟨d, hd, v, hv, hp, rfl⟩
    exact ⟨rfl, d, hd, v, hv, hp⟩
  · rintro ⟨rfl, d, hd, v, hv, hp⟩
    exact ⟨d, hd, v, hv, hp, rfl⟩

/-- the answer of the duplicate stage: one group per code -/
theorem mem_dupGroups (l : List Nat) (c : Nat) : c ∈ (l.eraseDups.map fun c => [c]).flatten ↔ c ∈ l := by
  simp only [List.mem_flatten, List.mem_map, List.mem_eraseDups]
  constructor
  · rintro ⟨_, ⟨a, ha, rfl⟩, hc⟩
    rwa [List.mem_singleton.mp hc]
  · exact fun h => ⟨[c], ⟨c, h, rfl⟩, List.mem_singleton_self c⟩

/-- the answer of a rule that discards everything else once a site yields P9999 (`ruleConstInit`) -/
theorem mem_abort9999 (S : List Nat) (c : Nat) :
    c ∈ (if S.contains P9999 then [[P9999]] else grp S).flatten ↔ P9999 ∈ S ∧ c = P9999 ∨ P9999 ∉ S ∧ c ∈ S := by
  by_cases h : P9999 ∈ S <;> simp only [List.contains_iff_mem, h, if_true, if_false, mem_grp_flatten] <;> simp

/-- a site test of the form `if … then some code else …` -/
theorem ite_some_eq_some {α} {p : Prop} [Decidable p] {a c : α} {o : Option α} :
    (if p then some a else o) = some c ↔ p ∧ a = c ∨ ¬ p ∧ o = some c := by
  split <;> simp [*]

theorem hasDup_iff (l : List Nat) : hasDup l = true ↔ ¬ l.Nodup := by
  induction l with
  | nil => simp [hasDup]
  | cons x xs ih =>
    simp only [hasDup, Bool.or_eq_true, List.contains_iff_mem, ih, List.nodup_cons, Classical.not_and_iff_not_or_not,
      Classical.not_not]

/-! ## duplicate names -/

/-- same name-keyed map and same name -/
def sameKey (d d' : ADecl) : Bool := d'.isType == d.isType && d'.name == d.name

theorem sameKey_iff {d d' : ADecl} : sameKey d d' = true ↔ d.isType = d'.isType ∧ d.name = d'.name := by
  simp only [sameKey, Bool.and_eq_true, beq_iff_eq]
  exact ⟨fun h => ⟨h.1.symm, h.2.symm⟩, fun h => ⟨h.1.symm, h.2.symm⟩⟩

theorem sameKey_comm (d d' : ADecl) : sameKey d d' = sameKey d' d := by
  rw [Bool.eq_iff_iff, sameKey_iff, sameKey_iff]
  exact ⟨fun h => ⟨h.1.symm, h.2.symm⟩, fun h => ⟨h.1.symm, h.2.symm⟩⟩

/-- the code a second declaration under the key of `d` is reported with -/
def dupCode (d : ADecl) : Nat := if d.isType then P0019 else P0020

theorem dupCode_congr {d d' : ADecl} (h : sameKey d d' = true) : dupCode d = dupCode d' := by
  rw [dupCode, dupCode, (sameKey_iff.mp h).1]

/-- `c` is reported iff it is the code of two declarations with the same key.  Said with `Pairwise`, so
that it is plainly independent of the order (the relation is symmetric). -/
theorem mem_dupCodes (ds : List ADecl) (c : Nat) :
    c ∈ dupCodes ds ↔ ¬ ds.Pairwise fun a b => ¬ (sameKey a b = true ∧ dupCode a = c) := by
  induction ds with
  | nil => simp [dupCodes]
  | cons d rest ih =>
    rw [dupCodes, List.mem_append, ih, List.pairwise_cons, Classical.not_and_iff_not_or_not]
    refine or_congr ?_ Iff.rfl
    show c ∈ (if rest.any (sameKey d) then [dupCode d] else []) ↔ _
    cases h : rest.any (sameKey d)
    · simp only [Bool.false_eq_true, if_false, List.not_mem_nil, false_iff, Classical.not_not]
      exact fun a ha hk => List.any_eq_false.mp h a ha hk.1
    · obtain ⟨a, ha, hk⟩ := List.any_eq_true.mp h
      simp only [if_true, List.mem_singleton]
      exact ⟨fun hc hall => hall a ha ⟨hk, hc.symm⟩,
        fun hn => Classical.byContradiction fun hc => hn fun _ _ h' => hc h'.2.symm⟩

theorem dupCodes_eq_nil_iff (ds : List ADecl) :
    dupCodes ds = [] ↔ ds.Pairwise (fun d d' => sameKey d d' = false) := by
  simp only [List.eq_nil_iff_forall_not_mem, mem_dupCodes, Classical.not_not, List.pairwise_iff_forall_sublist]
  exact ⟨fun h a b hab => by simpa using h (dupCode a) hab, fun h c a b hab => by simp [h hab]⟩

theorem dupCodes_sub {ds : List ADecl} {c : Nat} (h : c ∈ dupCodes ds) : c = P0019 ∨ c = P0020 := by
  rw [mem_dupCodes, List.pairwise_iff_forall_sublist] at h
  simp only [Classical.not_forall, Classical.not_not] at h
  obtain ⟨a, _, _, _, rfl⟩ := h
  unfold dupCode
  split <;> simp

/-! ## the pipeline: a chain of stages, each of which either aborts with a non-empty answer or lets the
next one run -/

theorem abort_eq_nil_iff {b : Bool} {g rest : Groups} (hg : b = true → g ≠ []) :
    (if b then g else rest) = [] ↔ b = false ∧ rest = [] := by
  cases b <;> simp_all

theorem analyzeDecls_of_dup {ds : List ADecl} (hr : recursive ds = false) (hd : dupCodes ds ≠ []) :
    analyzeDecls ds = (dupCodes ds).eraseDups.map fun c => [c] := by
  rw [analyzeDecls, hr, if_neg Bool.false_ne_true, if_pos]
  simpa using hd

theorem rules_eq_nil_iff (ds : List ADecl) :
    rules ds = [] ↔
      (ruleStruct ds = [] ∧ ruleSubrange ds = [] ∧ ruleEnumUnique ds = [] ∧ ruleFbCall ds = [] ∧ ruleTask ds = [] ∧
       ruleEnumUse ds = [] ∧ ruleVarUse ds = [] ∧ ruleStdlib ds = [] ∧ ruleConstInit ds = [] ∧ ruleConstFb ds = [] ∧
       ruleExternalConst ds = []) := by
  simp only [rules, List.append_eq_nil_iff, and_assoc]

theorem mem_rules_flatten (ds : List ADecl) (c : Nat) :
    c ∈ (rules ds).flatten ↔
      (c ∈ (ruleStruct ds).flatten ∨ c ∈ (ruleSubrange ds).flatten ∨ c ∈ (ruleEnumUnique ds).flatten ∨
       c ∈ (ruleFbCall ds).flatten ∨ c ∈ (ruleTask ds).flatten ∨ c ∈ (ruleEnumUse ds).flatten ∨
       c ∈ (ruleVarUse ds).flatten ∨ c ∈ (ruleStdlib ds).flatten ∨ c ∈ (ruleConstInit ds).flatten ∨
       c ∈ (ruleConstFb ds).flatten ∨ c ∈ (ruleExternalConst ds).flatten) := by
  simp only [rules, List.flatten_append, List.mem_append, or_assoc]

theorem semantic_eq_nil_iff (files : List AFile) :
    semantic files = [] ↔
      files ≠ [] ∧ (∀ f ∈ files, f.parseError = false) ∧ analyzeDecls (files.flatMap (·.decls)) = [] := by
  unfold semantic
  cases h : files.any (·.parseError)
  · have hall : ∀ f ∈ files, f.parseError = false := fun f hf => Bool.eq_false_iff.mpr (List.any_eq_false.mp h f hf)
    have hf : files.filter (!·.parseError) = files := List.filter_eq_self.mpr fun f hf => by simp [hall f hf]
    simp only [hf, Bool.false_eq_true, if_false, List.nil_append, and_iff_right hall]
    cases files <;> simp
  · obtain ⟨f, hf, hp⟩ := List.any_eq_true.mp h
    have : ¬ ∀ f ∈ files, f.parseError = false := fun hall => by rw [hall f hf] at hp; cases hp
    simp only [this, false_and, and_false, iff_false]
    cases (files.filter (!·.parseError)).isEmpty <;> exact List.cons_ne_nil _ _

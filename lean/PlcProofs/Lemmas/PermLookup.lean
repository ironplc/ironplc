import PlcProofs.Lemmas.Analyze

/-!
# The analysis model does not depend on the order of the declarations

Two answers are compared by `SameCodes`: same verdict, same set of codes.  Every rule is `grp` of the codes of
its sites, a `flatMap` over the declarations, so a permutation changes nothing but the order inside a group —
provided the site test itself reads the other declarations only through lookups that do not depend on the order.
Those are `find?`s with a predicate that at most one declaration satisfies: after the duplicate stage
(`dupCodes ds = []`) and the type / function block clash test, every lookup of the later stages (alias chains,
type table, callee, enumeration values) is of that kind.
-/

namespace PermLookup

/-! ## same verdict, same codes -/

def SameCodes (g g' : Groups) : Prop := (g = [] ↔ g' = []) ∧ ∀ c, c ∈ g.flatten ↔ c ∈ g'.flatten

theorem SameCodes.refl (g : Groups) : SameCodes g g := ⟨Iff.refl _, fun _ => Iff.refl _⟩

theorem SameCodes.append {a a' b b' : Groups} (ha : SameCodes a a') (hb : SameCodes b b') :
    SameCodes (a ++ b) (a' ++ b') :=
  ⟨by simp only [List.append_eq_nil_iff, ha.1, hb.1],
   fun c => by simp only [List.flatten_append, List.mem_append, ha.2, hb.2]⟩

/-- a stage that aborts, or a rule that discards: both sides take the same branch -/
theorem SameCodes.ite {b b' : Bool} {x x' y y' : Groups} (hb : b = b') (hx : b = true → SameCodes x x')
    (hy : b = false → SameCodes y y') : SameCodes (if b then x else y) (if b' then x' else y') := by
  subst hb
  cases b
  · exact hy rfl
  · exact hx rfl

theorem nil_iff_of_mem_iff {α} {l l' : List α} (h : ∀ c, c ∈ l ↔ c ∈ l') : l = [] ↔ l' = [] := by
  simp only [List.eq_nil_iff_forall_not_mem, h]

theorem SameCodes.grp {l l' : List Nat} (h : l.Perm l') : SameCodes (grp l) (grp l') :=
  ⟨by rw [grp_eq_nil_iff, grp_eq_nil_iff]; exact nil_iff_of_mem_iff fun _ => h.mem_iff,
   fun c => by simp only [mem_grp_flatten, h.mem_iff]⟩

theorem SameCodes.dupGroups {l l' : List Nat} (h : ∀ c, c ∈ l ↔ c ∈ l') :
    SameCodes (l.eraseDups.map fun c => [c]) (l'.eraseDups.map fun c => [c]) :=
  ⟨by rw [List.map_eq_nil_iff, List.map_eq_nil_iff]; exact nil_iff_of_mem_iff fun c => by simp only [List.mem_eraseDups, h],
   fun c => by simp only [mem_dupGroups, h]⟩

/-! ## `find?` with a predicate that at most one element satisfies -/

theorem find?_perm {α} {p : α → Bool} {l l' : List α} (h : l.Perm l')
    (uniq : ∀ x ∈ l, ∀ y ∈ l, p x = true → p y = true → x = y) : l.find? p = l'.find? p := by
  -- the elements that satisfy `p` are all equal, so a permutation of them is the same list
  have pw : ∀ {m : List α}, (∀ x ∈ m, x ∈ l) → (m.filter p).Pairwise Eq := fun hm =>
    List.pairwise_of_forall_mem_list fun x hx y hy =>
      uniq x (hm x (List.mem_filter.mp hx).1) y (hm y (List.mem_filter.mp hy).1) (List.mem_filter.mp hx).2 (List.mem_filter.mp hy).2
  rw [← List.head?_filter, ← List.head?_filter,
    (h.filter p).eq_of_pairwise (fun _ _ _ _ e _ => e) (pw fun _ hx => hx) (pw fun _ hx => h.mem_iff.mpr hx)]

section lookups
variable {ds ds' : List ADecl}

/-- no two declarations share the key (type-or-not, name) once the duplicate stage is passed -/
theorem key_unique (hd : dupCodes ds = []) : ∀ a ∈ ds, ∀ b ∈ ds, sameKey a b = true → a = b := by
  have hp := (dupCodes_eq_nil_iff ds).mp hd
  refine List.Pairwise.forall_of_forall_of_flip (fun _ _ _ => rfl) (hp.imp ?_) (hp.imp ?_)
  · intro a b hf ht; rw [hf] at ht; cases ht
  · intro a b hf ht; rw [sameKey_comm, hf] at ht; cases ht

variable (h : ds.Perm ds')
include h

theorem exprUnsupported_perm : exprUnsupported ds = exprUnsupported ds' := h.any_eq

theorem typeFbClash_perm : typeFbClash ds = typeFbClash ds' := by
  unfold typeFbClash
  rw [h.any_eq]
  congr 1
  funext d
  rw [h.any_eq]

theorem lateTypeRefs_perm : (lateTypeRefs ds).Perm (lateTypeRefs ds') := h.flatMap_right _

theorem ruleExternalConst_same : SameCodes (ruleExternalConst ds) (ruleExternalConst ds') := by
  unfold ruleExternalConst
  simp only []  -- reduces the `let consts`
  rw [show List.contains (ds'.flatMap _) = _ from funext fun _ => (h.flatMap_right _).symm.contains_eq]
  exact .grp (h.flatMap_right _)

variable (hd : dupCodes ds = [])
include hd

/-- a lookup by name among the type declarations (`b = true`) or among the others.  The predicate is a parameter
with what it implies, so that the lemma applies to the anonymous functions (and their private matchers) inside
the model definitions. -/
theorem keyFind_perm (b : Bool) (n : Nat) (p : ADecl → Bool) (hp : ∀ d, p d = true → d.isType = b ∧ d.name = n) :
    ds.find? p = ds'.find? p :=
  find?_perm h fun x hx y hy px py => key_unique hd x hx y hy
    (sameKey_iff.mpr ⟨(hp x px).1.trans (hp y py).1.symm, (hp x px).2.trans (hp y py).2.symm⟩)

theorem aliasRoot_perm : aliasRoot ds = aliasRoot ds' := by
  funext fuel
  induction fuel with
  | zero => rfl
  | succ f ih =>
    funext n
    simp only [aliasRoot]
    rw [keyFind_perm h hd true n _ (by simp), ih]

theorem enumValues_perm : enumValues ds = enumValues ds' := by
  funext fuel
  induction fuel with
  | zero => rfl
  | succ f ih =>
    funext n
    simp only [enumValues]
    rw [keyFind_perm h hd true n _ (by simp), ih]

theorem findFb_perm : findFb ds = findFb ds' := by
  funext n
  exact keyFind_perm h hd false n _ (by intro d hd'; cases d <;> simp_all [ADecl.isType])

theorem aliasUnsupported_perm : aliasUnsupported ds = aliasUnsupported ds' := by
  unfold aliasUnsupported
  rw [aliasRoot_perm h hd, h.length_eq]
  exact h.any_eq

variable (hc : typeFbClash ds = false)
include hc

/-- a lookup by name in the type table, which holds the type declarations and the function blocks -/
theorem tableFind_perm (n : Nat) (p : ADecl → Bool)
    (hp : ∀ d, p d = true → (d.isType = true ∨ ∃ m vs bd, d = .fb m vs bd) ∧ d.name = n) :
    ds.find? p = ds'.find? p := by
  -- a type and a function block of the same name would be a clash
  have clash : ∀ x ∈ ds, ∀ m vs bd, ADecl.fb m vs bd ∈ ds → x.isType = true → x.name ≠ m := by
    intro x hx m vs bd hy tx hn
    have : typeFbClash ds = true :=
      List.any_eq_true.mpr ⟨x, hx, Bool.and_eq_true_iff.mpr ⟨tx, List.any_eq_true.mpr
        ⟨.fb m vs bd, hy, Bool.and_eq_true_iff.mpr ⟨rfl, beq_iff_eq.mpr hn.symm⟩⟩⟩⟩
    rw [hc] at this; cases this
  refine find?_perm h fun x hx y hy px py => ?_
  have ⟨kx, nx⟩ := hp x px
  have ⟨ky, ny⟩ := hp y py
  have hname : x.name = y.name := nx.trans ny.symm
  refine key_unique hd x hx y hy (sameKey_iff.mpr ⟨?_, hname⟩)
  rcases kx with tx | ⟨m, vs, bd, rfl⟩ <;> rcases ky with ty | ⟨m', vs', bd', rfl⟩
  · rw [tx, ty]
  · exact absurd hname (clash x hx _ _ _ hy tx)
  · exact absurd hname.symm (clash y hy _ _ _ hx ty)
  · rfl

theorem typeKind_perm : typeKind ds = typeKind ds' := by
  funext n
  unfold typeKind
  rw [tableFind_perm h hd hc n _ (by intro d hd'; cases d <;> simp_all [ADecl.isType]), h.length_eq,
    aliasRoot_perm h hd]

theorem unknownTypes_perm : (unknownTypes ds).Perm (unknownTypes ds') := by
  unfold unknownTypes
  rw [typeKind_perm h hd hc]
  exact (lateTypeRefs_perm h).filter _

theorem typeInitUnsupported_perm : typeInitUnsupported ds = typeInitUnsupported ds' := by
  unfold typeInitUnsupported
  rw [typeKind_perm h hd hc]
  exact (lateTypeRefs_perm h).any_eq

/-- The eleven rules give the same verdict and the same codes in every declaration order: each is `grp` of a
`flatMap` (or `filterMap`) over the declarations whose site test reads the unit through `typeKind`, `findFb`,
`enumValues`, its length and a membership test only. -/
theorem rules_same : SameCodes (rules ds) (rules ds') := by
  have hk := typeKind_perm h hd hc
  unfold rules
  -- one bullet per rule, in the order of `rules`; a rule that looks nothing up is `grp` of a list that is merely permuted
  refine ((((((((((SameCodes.append ?_ ?_).append ?_).append ?_).append ?_).append ?_).append ?_).append ?_).append
    ?_).append ?_).append ?_)
  · exact .grp (h.filterMap _)
  · exact .grp (h.filterMap _)
  · exact .grp (h.filterMap _)
  · unfold ruleFbCall callCode isFbVar
    rw [← hk, ← findFb_perm h hd]
    exact .grp (h.flatMap_right _)
  · exact .grp (h.flatMap_right _)
  · unfold ruleEnumUse isEnumVar
    rw [← hk, ← enumValues_perm h hd, ← h.length_eq]
    exact .grp (h.flatMap_right _)
  · exact .grp (h.flatMap_right _)
  · exact .grp (h.flatMap_right _)
  · unfold ruleConstInit isFbVar isStructVar
    rw [← hk]
    exact .ite (h.flatMap_right _).contains_eq (fun _ => .refl _) fun _ => .grp (h.flatMap_right _)
  · unfold ruleConstFb isFbVar
    rw [← hk]
    exact .grp (h.flatMap_right _)
  · exact ruleExternalConst_same h

end lookups

end PermLookup

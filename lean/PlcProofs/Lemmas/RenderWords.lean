import PlcProofs.Lemmas.LexEval
import PlcModel.Gen.RenderKw
import PlcModel.Gen.TextKw
import PlcModel.Gen.Prec

/-!
# What the renderer writes is what the lexer and the grammar know

`Gen.renderLits` is every string literal of `plc2plc/src/renderer.rs` (arguments of `write_ws` / `write`, results of
its match arms), re-extracted on every run; `Gen.table` is the token table of `token.rs`, `Gen.textKw` the words the
grammar matches by text, `Gen.prec` the `precedence!` block of `parser.rs`.  The facts below are evaluated by the
kernel over the whole tables (`decide +kernel`; no `native_decide`), all in one theorem so that each literal is lexed
once.
-/

namespace RenderWords

/-- a word in capitals: letters `A`–`Z` and `_`, at least two of them -/
def kwShaped (s : String) : Bool := decide (2 ≤ s.toList.length) && s.toList.all fun c => ('A' ≤ c && c ≤ 'Z') || c == '_'

/-- the lexer reads the whole of `s` as one token, and not as an identifier -/
def reservedWord (s : String) : Bool :=
  match lexOne s.toList with
  | some (e, n) => n == s.toList.length && e.ty != "Identifier"
  | none => false

/-- the grammar matches `s` by its text (`tok_eq`, `id_eq`, `dt_sep`) -/
def textKeyword (s : String) : Bool := Gen.textKw.any fun k => k.2.2 == s

/-- the lexer reads the whole of `s` as one token of type `ty` -/
def lexesAs (s ty : String) : Bool :=
  match lexOne s.toList with
  | some (e, n) => e.ty == ty && n == s.toList.length
  | none => false

/-- `INTERNAL` is the recorded finding C10-task-interval (the renderer writes it for `INTERVAL`): named here, so that no other
word is excused -/
def wordsOk : Bool :=
  Gen.renderLits.all fun l => !kwShaped l.2.2 || reservedWord l.2.2 || textKeyword l.2.2 || l.2.2 == "INTERNAL"

/-- what is passed to `write` / `write_ws` directly (not the result of a match arm) lexes without error -/
def directOk : Bool :=
  Gen.renderLits.all fun l => l.1 == "arm" || (!(lexItems l.2.2.toList).isEmpty && (lexItems l.2.2.toList).all fun i => !i.err)

/-- the renderer has a match arm for `variant` whose text the lexer reads as one token of type `token` -/
def armLexesAs (variant token : String) : Bool :=
  Gen.renderLits.any fun l => l.1 == "arm" && l.2.1 == variant && lexesAs l.2.2 token

theorem of_armLexesAs {variant token : String} (h : armLexesAs variant token = true) :
    ∃ l ∈ Gen.renderLits, l.1 = "arm" ∧ l.2.1 = variant ∧ lexesAs l.2.2 token = true := by
  obtain ⟨l, hl, h⟩ := List.any_eq_true.mp h
  simp only [Bool.and_eq_true, beq_iff_eq] at h
  exact ⟨l, hl, h.1.1, h.1.2, h.2⟩

def operatorsOk : Bool := Gen.prec.all fun row => armLexesAs (row.opEnum ++ "::" ++ row.op) row.token

theorem tables_ok :
    wordsOk = true ∧ directOk = true ∧ operatorsOk = true ∧
      armLexesAs "UnaryOp::Neg" "Minus" = true ∧ armLexesAs "UnaryOp::Not" "Not" = true := by
  simp only [wordsOk, directOk, operatorsOk, armLexesAs, kwShaped, reservedWord, lexesAs, lexItems, ← lexOneFast_eq, choose_eq_fast,
    ← strChars_eq]
  decide +kernel

end RenderWords

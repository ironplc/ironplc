/-!
# Strings in a form the kernel evaluates quickly

`String.decEq` costs the kernel some 1,400 steps a call even where the first bytes differ (lists of `UInt8`, each a
`BitVec`, a `Fin`, a `Nat`), and `String.toList` decodes UTF-8 by well-founded recursion, some 5,000 steps a character.
What the kernel does keep is the byte list of a literal, once it has been evaluated.  `strKey` packs it into one number,
so that `==` on strings is `Nat.beq` on two remembered numbers, and `strChars` reads ASCII bytes as the characters
they are; the sweeps over the generated tables rewrite `==` and `toList` into these before they evaluate.
-/

/-- bijective base 256 -/
def bytesKey : List UInt8 → Nat
  | [] => 0
  | b :: bs => bytesKey bs * 256 + b.toNat + 1

theorem bytesKey_inj : ∀ {a b : List UInt8}, bytesKey a = bytesKey b → a = b
  | [], [], _ => rfl
  | [], _ :: _, h => absurd h.symm (Nat.succ_ne_zero _)
  | _ :: _, [], h => absurd h (Nat.succ_ne_zero _)
  | x :: a, y :: b, h => by
    -- the head byte is the remainder modulo 256; cancel it
    have h : bytesKey a * 256 + x.toNat = bytesKey b * 256 + y.toNat := Nat.succ.inj h
    have hm := congrArg (· % 256) h
    simp only [Nat.mul_add_mod_of_lt x.toNat_lt, Nat.mul_add_mod_of_lt y.toNat_lt] at hm
    rw [hm] at h
    rw [bytesKey_inj (Nat.eq_of_mul_eq_mul_right (by decide) (Nat.add_right_cancel h)), UInt8.toNat_inj.mp hm]

def strKey (s : String) : Nat := bytesKey s.toByteArray.data.toList

theorem strKey_inj {a b : String} (h : strKey a = strKey b) : a = b :=
  String.toByteArray_inj.mp (ByteArray.ext (Array.toList_inj.mp (bytesKey_inj h)))

theorem beq_eq_strKey (a b : String) : (a == b) = Nat.beq (strKey a) (strKey b) :=
  Bool.eq_iff_iff.mpr (by rw [beq_iff_eq, Nat.beq_eq]; exact ⟨congrArg _, strKey_inj⟩)

def strChars (s : String) : List Char :=
  if s.toByteArray.data.toList.all (·.toNat < 128) then s.toByteArray.data.toList.map (Char.ofNat ·.toNat) else s.toList

theorem utf8Encode_ascii : ∀ {bs : List UInt8}, bs.all (·.toNat < 128) = true →
    (bs.map (Char.ofNat ·.toNat)).flatMap String.utf8EncodeChar = bs
  | [], _ => rfl
  | b :: bs, h => by
    simp only [List.all_cons, Bool.and_eq_true, decide_eq_true_eq] at h
    have hv : (Char.ofNat b.toNat).val.toNat = b.toNat := by
      rw [Char.ofNat, dif_pos (Or.inl (Nat.lt_trans h.1 (by decide)))]; simp [Char.ofNatAux]
    simp [String.utf8EncodeChar, hv, Nat.le_of_lt_succ h.1, utf8Encode_ascii h.2]

theorem strChars_eq (s : String) : strChars s = s.toList := by
  unfold strChars
  split
  · rename_i h
    have : s = String.ofList (s.toByteArray.data.toList.map (Char.ofNat ·.toNat)) :=
      String.toByteArray_inj.mp <| ByteArray.ext <| by
        rw [String.toByteArray_ofList, List.utf8Encode, List.data_toByteArray, utf8Encode_ascii h]
    exact String.toList_ofList.symm.trans (congrArg _ this.symm)
  · rfl

import PlcModel.Render
import PlcModel.Gen.Prec
import PlcProofs.Lemmas.FullParen

/-!
# The renderer model writes expressions in the `FullParen` printing

`Render.RE` (the model of `visit_compare_expr` / `visit_binary_expr` / `visit_unary_expr`, the one the
correspondence check compares with `write_to_string` lexeme by lexeme) applied to the dsl tree of an
abstract expression gives exactly the text of `FullParen.prFull`.  Operators are rows of the
generated precedence table `Gen.prec` (translated from the `precedence!` block of parser.rs).
-/

namespace RenderExpr
open FullParen Render

def atomName (n : Nat) : String := "x" ++ toString n

def defaultRow : Gen.PrecRow := { level := 0, token := "", ctor := "", opEnum := "", op := "", leftAssoc := true }

/-- the table row of an operator (`Op.id` indexes `Gen.prec`) -/
def row (o : Op) : Gen.PrecRow := Gen.prec.getD o.id defaultRow

/-- the lexeme the renderer writes for the row's operator -/
def symOfRow (r : Gen.PrecRow) : Option String :=
  if r.ctor = "compare" then compareOp r.op else binaryOp r.op

/-- the dsl node the parser builds for the row's operator (`ExprKind::compare` / `ExprKind::binary`) -/
def sxOfBin (r : Gen.PrecRow) (a b : Sx) : Sx :=
  if r.ctor = "compare" then .t "Compare" [.n "CompareExpr" [("op", .a r.op), ("left", a), ("right", b)]]
  else .t "BinaryOp" [.n "BinaryExpr" [("op", .a r.op), ("left", a), ("right", b)]]

/-- the dsl node of a unary operator; `u = 0` is negation, anything else `NOT` (so in `tokText` below) -/
def sxOfUn (u : Nat) (t : Sx) : Sx :=
  .t "UnaryOp" [.n "UnaryExpr" [("op", .a (if u = 0 then "Neg" else "Not")), ("term", t)]]

/-- the dsl tree of an abstract expression: what `Parse.applyOp` and the unary rule build (`MX.E.sx`, over abstract tokens) -/
def embed : Expr → Sx
  | .leaf n => .t "LateBound" [.n "LateBound" [("name", .a (atomName n))]]
  | .un u e => sxOfUn u (embed e)
  | .bin o l r => sxOfBin (row o) (embed l) (embed r)

def depth : Expr → Nat
  | .leaf _ => 0
  | .un _ e => depth e + 1
  | .bin _ l r => max (depth l) (depth r) + 1

/-- every operator of the tree is a row whose lexeme the renderer knows -/
def OpsOk : Expr → Prop
  | .leaf _ => True
  | .un _ e => OpsOk e
  | .bin o l r => (symOfRow (row o)).isSome ∧ OpsOk l ∧ OpsOk r

def tokText : Tok → String
  | .atom n => " " ++ atomName n
  | .op o => " " ++ (symOfRow (row o)).getD ""
  | .uop u => if u = 0 then " -" else " NOT"
  | .lp => " ("
  | .rp => " )"

def text : List Tok → String
  | [] => ""
  | t :: ts => tokText t ++ text ts

theorem text_append (a b : List Tok) : text (a ++ b) = text a ++ text b := by
  induction a with
  | nil => simp [text]
  | cons t ts ih => simp [text, ih, String.append_assoc]

theorem text_prFull_un (u : Nat) (e : Expr) :
    text (prFull (.un u e)) =
      tokText (.uop u) ++ if isUn e then " (" ++ (text (prFull e) ++ " )") else text (prFull e) := by
  rw [prFull_un]
  cases isUn e <;> simp [text, text_append, tokText]

/-- the test `visit_unary_expr` makes on its operand -/
def isUnarySx : Sx → Bool
  | .t "UnaryOp" _ => true
  | _ => false

theorem isUnarySx_embed (e : Expr) : isUnarySx (embed e) = isUn e := by
  cases e with
  | bin o l r => unfold embed sxOfBin; split <;> rfl
  | _ => rfl

theorem fld_head (k : String) (v : Sx) (fs : List (String × Sx)) : fld ((k, v) :: fs) k = some v := by
  simp [fld, List.find?]

theorem fld_tail {k k' : String} (h : (k' == k) = false) (v : Sx) (fs : List (String × Sx)) :
    fld ((k', v) :: fs) k = fld fs k := by
  simp [fld, List.find?, h]

theorem RE_leaf (f n : Nat) : RE (f + 1) (embed (.leaf n)) = some (" " ++ atomName n) := by rfl

/-- `visit_compare_expr` / `visit_binary_expr` -/
theorem RE_bin (f : Nat) (r : Gen.PrecRow) (a b : Sx) :
    RE (f + 1) (sxOfBin r a b) =
      (symOfRow r).bind fun s => (RE f a).bind fun x => (RE f b).bind fun y =>
        some (" (" ++ x ++ (" " ++ s) ++ y ++ " )") := by
  unfold sxOfBin symOfRow
  split <;> rfl

/-- `visit_unary_expr` on any operand `t`: parentheses exactly when `t` is a unary expression -/
theorem RE_un {f u : Nat} {t : Sx} {x : String} (h : RE f t = some x) :
    RE (f + 1) (sxOfUn u t) =
      some (tokText (.uop u) ++ if isUnarySx t then " (" ++ (x ++ " )") else x) := by
  unfold sxOfUn tokText isUnarySx RE
  simp only [fld_head, fld_tail (show ("op" == "term") = false by decide), h, bind, Option.bind, pure, ws]
  by_cases hu : u = 0 <;> simp only [hu, if_true, if_false] <;> split <;> simp [*, ← String.append_assoc]

/-- The renderer model on the tree of an expression writes the fully parenthesised printing. -/
theorem render_of_depth_lt : ∀ (f : Nat) (e : Expr), OpsOk e → depth e < f → RE f (embed e) = some (text (prFull e))
  | 0, _, _, hd => absurd hd (Nat.not_lt_zero _)
  | f + 1, .leaf n, _, _ => by
    rw [RE_leaf]
    simp [prFull, text, tokText]
  | f + 1, .bin o l r, ⟨hs, hl, hr⟩, hd => by
    obtain ⟨h1, h2⟩ := Nat.max_lt.mp (Nat.lt_of_succ_lt_succ hd)
    obtain ⟨s, hs⟩ := Option.isSome_iff_exists.mp hs
    rw [embed, RE_bin, hs, render_of_depth_lt f l hl h1, render_of_depth_lt f r hr h2]
    simp [prFull, text, text_append, tokText, hs, String.append_assoc]
  | f + 1, .un u e, h, hd => by
    rw [embed, RE_un (render_of_depth_lt f e h (Nat.lt_of_succ_lt_succ hd)), isUnarySx_embed, text_prFull_un]

end RenderExpr

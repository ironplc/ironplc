import PlcProofs.Lemmas.StrEval
import PlcProofs.Lemmas.Lex

/-!
# The lexer in a form the kernel evaluates quickly

`lexOne` tries all of `Gen.table` at every position, and almost every entry is a word that fails on its first letter.
`lexOneFast` is the same function (`lexOneFast_eq`) that first drops the entries whose pattern visibly starts with
another character; the theorems decided by evaluation over the generated tables, and the test vectors, rewrite
`lexOne` / `choose` into it and then evaluate.
-/

/-- the class in which every match of `r` starts, where the pattern shows it -/
def Re.head? : Re → Option (List (Char × Char))
  | .cls false rs => some rs
  | .seq a _ => a.head?
  | _ => none

def Re.startsWith (c : Char) (r : Re) : Bool :=
  match r.head? with
  | some rs => Re.inRanges rs c
  | none => true

theorem Re.deriv_of_head? {nd : Char → Bool} {c : Char} {rs : List (Char × Char)} {r : Re}
    (h : r.head? = some rs) (hc : Re.inRanges rs c = false) : r.nullable = false ∧ Re.deriv nd c r = .empty := by
  fun_induction Re.head? r with
  | case1 => cases h; simp [Re.nullable, Re.deriv, hc]
  | case2 a b ih => obtain ⟨hn, hd⟩ := ih h; simp [Re.nullable, Re.deriv, hn, hd, Re.mkSeq]
  | case3 => cases h

theorem Re.longest_of_not_startsWith {nd : Char → Bool} {c : Char} {cs : List Char} {r : Re}
    (h : r.startsWith c = false) : Re.longest nd r (c :: cs) = none := by
  unfold Re.startsWith at h
  split at h
  · rename_i rs hr
    obtain ⟨hn, hd⟩ := Re.deriv_of_head? (nd := nd) hr h
    have he : (Re.empty == Re.empty) = true := rfl
    simp [Re.longest, Re.longestGo, hn, hd, he]
  · cases h

/-- entries that match nothing at the head of `s` play no part in the choice -/
theorem lexOneIn_filter {p : Gen.Entry → Bool} {tbl : List Gen.Entry} {s : List Char}
    (h : ∀ e ∈ tbl, p e = false → Re.longest isNd e.re s = none) :
    lexOneIn (tbl.filter p) s = lexOneIn tbl s := by
  unfold lexOneIn
  rw [List.foldl_filter]
  refine List.foldl_rel (r := Eq) rfl fun e he best _ hb => ?_
  subst hb
  cases hp : p e
  · simp [h e he hp]
  · simp

/-- `k s`, after every char of `s` has been evaluated to `Char.ofNat` of a numeral.  The kernel remembers the value of
a term it has evaluated, so two texts share the work on a common prefix only when their chars are the same *terms*;
those of `String.toList "…"` are not (each is a decoding step at its own byte offset).  Matching on `c.toNat` makes the
kernel evaluate it, and hands the continuation the numeral. -/
def withLit {α} : List Char → (List Char → α) → α
  | [], k => k []
  | c :: cs, k =>
    match c.toNat with
    | 0 => withLit cs fun cs' => k (Char.ofNat 0 :: cs')
    | n + 1 => withLit cs fun cs' => k (Char.ofNat (n + 1) :: cs')

theorem withLit_eq {α} (s : List Char) (k : List Char → α) : withLit s k = k s := by
  induction s generalizing k with
  | nil => rfl
  | cons c cs ih =>
    unfold withLit
    split <;> rename_i h <;> rw [ih, (Char.ofNat_toNat c).symm.trans (congrArg Char.ofNat h)]

def lexOneFast (s : List Char) : Option (Gen.Entry × Nat) :=
  withLit s fun
    | [] => lexOne []
    | c :: cs => lexOneIn (Gen.table.filter (·.re.startsWith c)) (c :: cs)

theorem lexOneFast_eq (s : List Char) : lexOneFast s = lexOne s := by
  unfold lexOneFast
  rw [withLit_eq]
  cases s with
  | nil => rfl
  | cons c cs => exact lexOneIn_filter fun _ _ h => Re.longest_of_not_startsWith h

def chooseFast (s : List Char) : Option String × Nat :=
  match lexOneFast s with
  | some (e, n) =>
    if isOpener s && !closesOpener e.ty then (none, s.length) else (some e.ty, n)
  | none => (none, if isOpener s then s.length else 1)

theorem choose_eq_fast : choose = chooseFast := funext fun s => by
  unfold choose chooseFast; rw [lexOneFast_eq]; rfl

theorem lexItems_eq_fast (s : List Char) : lexItems s = lexWith chooseFast s.length s 0 0 0 := by
  rw [lexItems, choose_eq_fast]

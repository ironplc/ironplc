import PlcProofs.Lemmas.MirrorVars

/-!
# Programs, function blocks and functions in the library round trip

`Parse.programDeclaration`, `Parse.functionBlockDeclaration` and `Parse.functionDeclaration` read
`PROGRAM name [VAR n : T; … END_VAR] statements END_PROGRAM`, the function block of the same shape and
`FUNCTION name : T statements END_FUNCTION` (the variable block of `MirrorVars.lean`, the statements of
`MirrorStmt.lean`) back to the tree that was written, and `Parse.library` reads every sequence of such declarations, in
any order, back to the library in source order.
-/

open P Parse

namespace MX

/-! ### the optional variable block of a declaration (of a program as well as of a function block) -/

namespace Fb

def varToks : Option (Item × VarD × List VarD × Item) → List Item
  | none => []
  | some (kVar, d, ds, kEndVar) => kVar :: (declToks (d :: ds) ++ [kEndVar])

def varSx : Option (Item × VarD × List VarD × Item) → List Sx
  | none => []
  | some (_, d, ds, _) => (d :: ds).map VarD.sx

/-- the `match` inside `Fb.WF`, under a name so that programs can say it too -/
def varsWF : Option (Item × VarD × List VarD × Item) → Prop
  | none => True
  | some (kVar, d, ds, kEndVar) => kVar.ty = "Var" ∧ kEndVar.ty = "EndVar" ∧ ∀ x ∈ d :: ds, x.WF

/-- what the rules for variable blocks return for the block -/
def varDecls : Option (Item × VarD × List VarD × Item) → List (List VD)
  | none => []
  | some (_, d, ds, _) => [[.var ((d :: ds).map VarD.sx)]]

end Fb

/-- no block, or `VAR d; ds… END_VAR`, in front of tokens `B` that start no block (`hnone`); `V` are the alternatives
for variable blocks of the declaration at hand, which read what `var_declarations` reads (`hvar`) -/
theorem varBlocks_reads (V : P (List VD)) (vars : Option (Item × VarD × List VarD × Item)) (B : List Item)
    (hvars : Fb.varsWF vars) (hws : ws B = some ((), B)) (hnone : V B = none)
    (hvar : ∀ (k : Item) (T : List Item) vd R, k.ty = "Var" → varDeclarations (k :: T) = some (vd, R) → V (k :: T) = some ([vd], R)) :
    ws (Fb.varToks vars ++ B) = some ((), Fb.varToks vars ++ B) ∧
    sepBy V ws (Fb.varToks vars ++ B) = some (Fb.varDecls vars, B) := by
  match vars, hvars with
  | none, _ => exact ⟨hws, sepBy_of_none hnone⟩
  | some (kVar, d, ds, kEndVar), ⟨hV, hEV, hds⟩ =>
    have htk : Fb.varToks (some (kVar, d, ds, kEndVar)) ++ B = kVar :: (declToks (d :: ds) ++ kEndVar :: B) := by
      simp [Fb.varToks, List.append_assoc]
    rw [htk]
    exact ⟨ws_hd hV, sepBy_cons (hvar _ _ _ _ hV (varDeclarations_reads B hV hEV hds))
      (many_none (by rw [bind_some hws]; exact hnone))⟩

/-! ### programs -/

/-- `PROGRAM name statements END_PROGRAM` -/
structure Prog where
  kProgram : Item
  name : Item
  body : Stl
  kEnd : Item

namespace Prog

def toks (p : Prog) : List Item := p.kProgram :: p.name :: (p.body.toks ++ [p.kEnd])

def WF (p : Prog) : Prop :=
  p.kProgram.ty = "Program" ∧ p.name.ty = "Identifier" ∧ p.kEnd.ty = "EndProgram" ∧ p.body.WF ∧ p.body.isNil = false

/-- the tree of the grammar action of `program_declaration` -/
def sx (p : Prog) : Sx :=
  .n "ProgramDeclaration" [("name", .a (txt p.name)), ("variables", .l []), ("access_variables", .l []),
    ("body", .t "Statements" [.n "Statements" [("body", .l p.body.sxs)]])]

end Prog

/-- `PROGRAM name VAR d; ds… END_VAR statements END_PROGRAM` -/
structure ProgV where
  kProgram : Item
  name : Item
  kVar : Item
  d : VarD
  ds : List VarD
  kEndVar : Item
  body : Stl
  kEnd : Item

namespace ProgV

def toks (p : ProgV) : List Item :=
  p.kProgram :: p.name :: p.kVar :: (declToks (p.d :: p.ds) ++ p.kEndVar :: (p.body.toks ++ [p.kEnd]))

def WF (p : ProgV) : Prop :=
  p.kProgram.ty = "Program" ∧ p.name.ty = "Identifier" ∧ p.kVar.ty = "Var" ∧ p.kEndVar.ty = "EndVar" ∧ p.kEnd.ty = "EndProgram" ∧
  (∀ x ∈ p.d :: p.ds, x.WF) ∧ p.body.WF ∧ p.body.isNil = false

def sx (p : ProgV) : Sx :=
  .n "ProgramDeclaration" [("name", .a (txt p.name)), ("variables", .l ((p.d :: p.ds).map VarD.sx)), ("access_variables", .l []),
    ("body", .t "Statements" [.n "Statements" [("body", .l p.body.sxs)]])]

end ProgV

/-- the variable blocks `program_declaration` accepts -/
abbrev progVarDecls : P (List VD) :=
  (do let a ← programAccessDecls; pure [a]) <|> ioVarDeclarations
    <|> (do let o ← otherVarDeclarations; pure [o]) <|> (do let l ← locatedVarDeclarations; pure [l])

theorem first_progVarDecls :
    First ["VarAccess", "VarInput", "VarOutput", "VarInOut", "VarExternal", "Var", "Var"] progVarDecls :=
  (first_access.bind _).orElse (first_ioVar.orElse ((first_otherVar.bind _).orElse (((First.tok _).bind _).bind _)))

theorem progVarDecls_var (k : Item) (T : List Item) (vd : VD) (R : List Item) (hk : k.ty = "Var")
    (h : varDeclarations (k :: T) = some (vd, R)) : progVarDecls (k :: T) = some ([vd], R) :=
  orElse_skip ((first_access.bind _).ne (by simp [hk])) (orElse_skip (first_ioVar.cons (by simp [hk]))
    (orElse_some (bind_some (otherVar_var hk h))))

theorem program_reads {kP name : Item} {vars : Option (Item × VarD × List VarD × Item)} {body : Stl} {kEnd : Item} (R : List Item)
    (hP : kP.ty = "Program") (hN : name.ty = "Identifier") (hE : kEnd.ty = "EndProgram")
    (hvars : Fb.varsWF vars) (hb : body.WF) (hne : body.isNil = false) :
    programDeclaration (kP :: name :: (Fb.varToks vars ++ (body.toks ++ kEnd :: R))) =
      some (.n "ProgramDeclaration" [("name", .a (txt name)), ("variables", .l (Fb.varSx vars)), ("access_variables", .l []),
        ("body", .t "Statements" [.n "Statements" [("body", .l body.sxs)]])], R) := by
  have hK := closer_kw hE
  have hwsB := (Closes.of (R := R) hK).ws_stl hb
  obtain ⟨hwsV, hsep⟩ := varBlocks_reads progVarDecls vars _ hvars hwsB
    (Stl.first_none first_progVarDecls (by decide) hb hne) progVarDecls_var
  rw [programDeclaration, bind_some (tok_hit hP), bind_some (ws_hd hN),
    bind_some (identifier_hit hN), bind_some hwsV, bind_some hsep, bind_some hwsB,
    bind_some (fbBody_statements hb hne R hK), bind_some (ws_cons (closer_not_trivia hK)),
    bind_some (tok_hit hE)]
  cases vars <;> rfl

/-- a program with or without a variable block -/
inductive AnyProg where
  | plain (p : Prog)
  | withVars (p : ProgV)

namespace AnyProg

def toks : AnyProg → List Item
  | plain p => p.toks
  | withVars p => p.toks

def sx : AnyProg → Sx
  | plain p => p.sx
  | withVars p => p.sx

def WF : AnyProg → Prop
  | plain p => p.WF
  | withVars p => p.WF

theorem reads (a : AnyProg) (h : a.WF) (R : List Item) : programDeclaration (a.toks ++ R) = some (a.sx, R) := by
  cases a with
  | plain p =>
    obtain ⟨hP, hN, hE, hb, hne⟩ := h
    have := program_reads (vars := none) R hP hN hE trivial hb hne
    simpa [toks, sx, Prog.toks, Prog.sx, Fb.varToks, Fb.varSx] using this
  | withVars p =>
    obtain ⟨hP, hN, hV, hEV, hE, hds, hb, hne⟩ := h
    have := program_reads (vars := some (p.kVar, p.d, p.ds, p.kEndVar)) R hP hN hE ⟨hV, hEV, hds⟩ hb hne
    simpa [toks, sx, ProgV.toks, ProgV.sx, Fb.varToks, Fb.varSx] using this

end AnyProg

/-! ### function blocks -/

/-- `FUNCTION_BLOCK name [VAR … END_VAR] statements END_FUNCTION_BLOCK` (`vars = none`: no variable block) -/
structure Fb where
  kFb : Item
  name : Item
  vars : Option (Item × VarD × List VarD × Item)
  body : Stl
  kEnd : Item

namespace Fb

def toks (p : Fb) : List Item := p.kFb :: p.name :: (varToks p.vars ++ (p.body.toks ++ [p.kEnd]))

def WF (p : Fb) : Prop :=
  p.kFb.ty = "FunctionBlock" ∧ p.name.ty = "Identifier" ∧ eqIgnoreAsciiCase p.name.text "END_VAR".toList = false ∧
  p.kEnd.ty = "EndFunctionBlock" ∧ p.body.WF ∧ p.body.isNil = false ∧
  (match p.vars with
   | none => True
   | some (kVar, d, ds, kEndVar) => kVar.ty = "Var" ∧ kEndVar.ty = "EndVar" ∧ ∀ x ∈ d :: ds, x.WF)

def sx (p : Fb) : Sx :=
  .n "FunctionBlockDeclaration" [("name", .a (txt p.name)), ("variables", .l (varSx p.vars)), ("edge_variables", .l []),
    ("body", .t "Statements" [.n "Statements" [("body", .l p.body.sxs)]])]

end Fb

/-- the variable blocks `function_block_declaration` accepts -/
abbrev fbVarDecls : P (List VD) := ioVarDeclarations <|> (do let o ← otherVarDeclarations; pure [o])

theorem fbVarDecls_var (k : Item) (T : List Item) (vd : VD) (R : List Item) (hk : k.ty = "Var")
    (h : varDeclarations (k :: T) = some (vd, R)) : fbVarDecls (k :: T) = some ([vd], R) :=
  orElse_skip (first_ioVar.cons (by simp [hk])) (bind_some (otherVar_var hk h))

theorem functionBlock_reads (p : Fb) (hp : p.WF) (R : List Item) :
    functionBlockDeclaration (p.toks ++ R) = some (p.sx, R) := by
  obtain ⟨hF, hN, hNot, hE, hb, hne, hv⟩ := hp
  have hK := closer_kw hE
  have hwsB := (Closes.of (R := R) hK).ws_stl hb
  obtain ⟨hwsV, hsep⟩ := varBlocks_reads fbVarDecls p.vars _ hv hwsB
    (Stl.first_none (first_ioVar.orElse (first_otherVar.bind _)) (by decide) hb hne) fbVarDecls_var
  have htoks : p.toks ++ R = p.kFb :: p.name :: (Fb.varToks p.vars ++ (p.body.toks ++ p.kEnd :: R)) := by
    simp [Fb.toks, List.append_assoc]
  -- the name is not END_VAR
  have hnot : notP (idEq "END_VAR") (p.name :: (Fb.varToks p.vars ++ (p.body.toks ++ p.kEnd :: R)))
      = some ((), p.name :: (Fb.varToks p.vars ++ (p.body.toks ++ p.kEnd :: R))) := by
    simp only [notP, idEq, tokEq, hNot, Bool.and_false, Bool.false_eq_true, if_false]
  rw [htoks, functionBlockDeclaration, bind_some (tok_hit hF),
    bind_some (ws_hd hN), bind_some hnot,
    bind_some (identifier_hit hN), bind_some hwsV, bind_some hsep, bind_some hwsB,
    bind_some (fbBody_statements hb hne R hK), bind_some (ws_cons (closer_not_trivia hK)),
    bind_some (tok_hit hE)]
  unfold Fb.sx
  cases p.vars <;> rfl

/-! ### functions -/

/-- `FUNCTION name : T statements END_FUNCTION` (no variable blocks; `T` an elementary type name, `v` its variant) -/
structure Fn where
  kFn : Item
  name : Item
  colon : Item
  rty : Item
  v : String
  body : Stl
  kEnd : Item

namespace Fn

def toks (p : Fn) : List Item := p.kFn :: p.name :: p.colon :: p.rty :: (p.body.toks ++ [p.kEnd])

def WF (p : Fn) : Prop :=
  p.kFn.ty = "Function" ∧ p.name.ty = "Identifier" ∧ p.colon.ty = "Colon" ∧ p.kEnd.ty = "EndFunction" ∧
  (∀ R, elementaryTypeName (p.rty :: R) = some (p.v, R)) ∧ isTrivia p.rty.ty = false ∧ p.body.WF ∧ p.body.isNil = false

def sx (p : Fn) : Sx :=
  .n "FunctionDeclaration" [("name", .a (txt p.name)), ("return_type", elementaryAsType p.v), ("variables", .l []),
    ("edge_variables", .l []), ("body", .l p.body.sxs)]

end Fn

theorem function_reads (p : Fn) (hp : p.WF) (R : List Item) :
    functionDeclaration (p.toks ++ R) = some (p.sx, R) := by
  obtain ⟨hF, hN, hC, hE, hT, hTt, hb, hne⟩ := hp
  have hK := closer_kw hE
  have hwsB := (Closes.of (R := R) hK).ws_stl hb
  have htoks : p.toks ++ R = p.kFn :: p.name :: p.colon :: p.rty :: (p.body.toks ++ p.kEnd :: R) := by
    simp [Fn.toks, List.append_assoc]
  have hrt : ((do let et ← elementaryTypeName; pure (elementaryAsType et)) <|> typeName : P Sx) (p.rty :: (p.body.toks ++ p.kEnd :: R))
      = some (elementaryAsType p.v, p.body.toks ++ p.kEnd :: R) :=
    orElse_some (bind_some (hT _))
  have hsep : sepBy (ioVarDeclarations <|> (do let f ← functionVarDecls; pure [f]) : P (List VD)) ws (p.body.toks ++ p.kEnd :: R)
      = some ([], p.body.toks ++ p.kEnd :: R) :=
    sepBy_of_none (Stl.first_none (first_ioVar.orElse (((First.tok "Var").bind _).bind _)) (by decide) hb hne)
  rw [htoks, functionDeclaration, bind_some (tok_hit hF), bind_some (ws_hd hN),
    bind_some (identifier_hit hN), bind_some (ws_hd hC),
    bind_some (tok_hit hC), bind_some (ws_cons hTt),
    bind_some hrt, bind_some hwsB, bind_some hsep, bind_some hwsB,
    bind_some (p := fun ts => statementList (fuelFor ts.length) ts) (statementList_roundtrip hb hne R hK),
    bind_some (ws_cons (closer_not_trivia hK)), bind_some (tok_hit hE)]
  rfl

/-! ### libraries of declarations -/

/-- a top-level declaration of the family: a program (with or without variables), a function block or a function -/
inductive Pou where
  | prog (a : AnyProg)
  | fb (p : Fb)
  | fn (p : Fn)

namespace Pou

def toks : Pou → List Item
  | prog a => a.toks
  | fb p => p.toks
  | fn p => p.toks

/-- the library element the grammar action builds -/
def elem : Pou → Sx
  | prog a => .t "ProgramDeclaration" [a.sx]
  | fb p => .t "FunctionBlockDeclaration" [p.sx]
  | fn p => .t "FunctionDeclaration" [p.sx]

def WF : Pou → Prop
  | prog a => a.WF
  | fb p => p.WF
  | fn p => p.WF

theorem reads (a : Pou) (h : a.WF) (R : List Item) : libraryElementDeclaration (a.toks ++ R) = some ([a.elem], R) :=
  match a with
  | prog a => libraryElement_program (a.reads h R)
  | fb p => libraryElement_functionBlock (functionBlock_reads p h R)
  | fn p => libraryElement_function (function_reads p h R)

end Pou

/-- **`Parse.library` on libraries of programs, function blocks** (each with or without a VAR block of
elementary-typed variables) **and functions** (`FUNCTION name : T statements END_FUNCTION`; statements nested to any
depth), in any order and number: the declarations in source order, nothing dropped, duplicated or reordered; the whole
input is consumed. -/
theorem library_reads_pous (ps : List Pou) (h : ∀ p ∈ ps, p.WF) :
    library (ps.flatMap Pou.toks) = some (.n "Library" [("elements", .l (ps.map Pou.elem))]) := by
  rw [library_reads Pou.toks (fun p => [p.elem]) ps fun p hp => p.reads (h p hp), ← List.map_eq_flatMap]

end MX

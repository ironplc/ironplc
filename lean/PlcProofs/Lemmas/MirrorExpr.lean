import PlcModel.Parse.Expr
import PlcProofs.Lemmas.Peg

/-!
# Round trip of the expression rules of the parser mirror itself

`PlcProofs/Lemmas/Climb.lean` proves the round trip for an abstract precedence climbing function.  This
file proves it for the functions the correspondence check actually runs against `parse_program`:
`Parse.expression` / `climb` / `climbLoop` / `atom` / `unaryExpression` / `primaryExpression` of
`PlcModel/Parse/Expr.lean`, driven by the generated table `Gen.prec`.

`S` is the syntax of an expression token list: identifiers, unsigned integers, unary operators on a primary, binary
operators of the table and (possibly redundant) parentheses.  `S.WF c s` says that `s` may stand where
the grammar expects an operand of level `c` (every un-parenthesised operator binds at least that tightly,
left operands at the operator's level, right operands one above: left associativity).  The theorem
`expression_reads` states that the mirror reads `s.toks` back as `s.sx` — the tree with the
parentheses dropped — for every well-formed `s` of any size, with an explicit fuel bound that the
driver's `fuelFor` meets.  Minimal-parenthesis printing (C01) and the renderer's full parenthesisation
(C10) are both instances.
-/

open P Parse

namespace MX

/-! ### the syntax of expression token lists -/

inductive S where
  | leaf (t : Item)
  /-- an unsigned decimal integer literal (a `Digits` token whose text reads as `v`) -/
  | num (t : Item) (v : Nat)
  | un (op : Item) (neg : Bool) (p : S)
  | bin (row : Gen.PrecRow) (op : Item) (l r : S)
  | paren (lp rp : Item) (s : S)

namespace S

def toks : S → List Item
  | leaf t => [t]
  | num t _ => [t]
  | un op _ p => op :: p.toks
  | bin _ op l r => l.toks ++ op :: r.toks
  | paren lp rp s => lp :: (s.toks ++ [rp])

/-- the tree the grammar actions build (parentheses leave no node) -/
def sx : S → Sx
  | leaf t => .t "LateBound" [.n "LateBound" [("name", .a (txt t))]]
  | num _ v => .t "Const" [.t "IntegerLiteral" [.n "IntegerLiteral" [("value", sxSigned v false), ("data_type", Sx.none')]]]
  | un _ neg p => .t "UnaryOp" [.n "UnaryExpr" [("op", .a (if neg then "Neg" else "Not")), ("term", p.sx)]]
  | bin row _ l r => applyOp row l.sx r.sx
  | paren _ _ s => s.sx

def isPrimary : S → Bool
  | leaf _ => true
  | num .. => true
  | paren .. => true
  | _ => false

def WF : Nat → S → Prop
  | _, leaf t => t.ty = "Identifier"
  | _, num t v => t.ty = "Digits" ∧ integerNew t.text = some v
  | _, un op neg p => op.ty = (if neg then "Minus" else "Not") ∧ p.isPrimary = true ∧ WF 0 p
  | c, bin row op l r => row ∈ Gen.prec ∧ op.ty = row.token ∧ c ≤ row.level ∧ WF row.level l ∧ WF (row.level + 1) r
  | _, paren lp rp s => lp.ty = "LeftParen" ∧ rp.ty = "RightParen" ∧ WF 0 s

/-- fuel that `climb` uses up before it enters its loop with the tree of `s` -/
def d : S → Nat
  | bin _ _ l _ => l.d + 1
  | _ => 1

/-- fuel that suffices for `climb` on `s.toks`: `climb`, `atom`, `unaryExpression` and `primaryExpression` each hand on their fuel
less one (a leaf: 4), `( … )` goes through `expression` and `climb` again (5 more than the contents), a binary node takes one
turn of the loop more than its operands; the 3 of a unary operator is not tight -/
def need : S → Nat
  | leaf _ => 4
  | num .. => 4
  | un _ _ p => p.need + 3
  | bin _ _ l r => l.need + r.need + 1
  | paren _ _ s => s.need + 5

theorem d_le_need (s : S) : s.d ≤ s.need := by
  induction s <;> simp only [d, need] <;> omega

theorem need_le (s : S) : s.need ≤ 5 * s.toks.length := by
  induction s <;> simp only [need, toks, List.length_cons, List.length_append, List.length_nil] <;> omega

/-- an operand starts with a name, a number, a unary operator or `(`, a primary with no unary operator -/
theorem head {s : S} : ∀ {c}, s.WF c →
    ∃ t ts, s.toks = t :: ts ∧ t.ty ∈ ["Identifier", "Digits", "LeftParen", "Minus", "Not"] ∧
      (s.isPrimary = true → t.ty ≠ "Minus" ∧ t.ty ≠ "Not") := by
  induction s with
  | leaf t => intro _ h; exact ⟨t, [], rfl, by simp [show t.ty = _ from h], fun _ => by simp [show t.ty = _ from h]⟩
  | num t v => intro _ h; exact ⟨t, [], rfl, by simp [h.1], fun _ => by simp [h.1]⟩
  | un op neg p _ => intro _ h; exact ⟨op, _, rfl, by cases neg <;> simp [h.1], fun h => by cases h⟩
  | bin row op l r ihl _ =>
    intro _ h
    obtain ⟨t, ts, hts, ht, -⟩ := ihl h.2.2.2.1
    exact ⟨t, ts ++ op :: r.toks, by simp [toks, hts], ht, fun h => by cases h⟩
  | paren lp rp s _ => intro _ h; exact ⟨lp, _, rfl, by simp [h.1], fun _ => by simp [h.1]⟩

end S

/-! ### what may follow an operand; facts about the generated table, decided over the whole table -/

/-- a token of this type may follow an operand: it does not extend it (as `#`, `(`, `[`, `.` would) and is not skipped as layout -/
def okNext (ty : String) : Bool :=
  !(ty == "Hash" || ty == "LeftParen" || ty == "LeftBracket" || ty == "Period" || isTrivia ty)

theorem table_left_assoc : ∀ row ∈ Gen.prec, row.leftAssoc = true := by decide

theorem table_tokens_distinct : ∀ a ∈ Gen.prec, ∀ b ∈ Gen.prec, a.token = b.token → a = b :=
  have h : Gen.prec.Pairwise (fun a b => a.token ≠ b.token) := by decide
  fun _ ha _ hb => List.Pairwise.forall_of_forall_of_flip (R := fun a b => a.token = b.token → a = b) (fun _ _ _ => rfl)
    (h.imp fun h e => absurd e h) (h.imp fun h e => absurd e.symm h) ha hb

theorem table_tokens_plain : ∀ row ∈ Gen.prec, okNext row.token = true ∧ row.token ≠ "RightParen" := by decide

/-- the loop of `climb` at minimum level `m` stops in front of `rest` and leaves the operand before it as it is: the first
token does not extend an operand, and if it is an operator of the table then one that binds less tightly than `m` -/
def Fol (m : Nat) : List Item → Prop
  | [] => True
  | t :: _ => okNext t.ty = true ∧ ∀ row ∈ Gen.prec, t.ty = row.token → row.level < m

/-- what may follow a whole expression: a token that is no operator of the table, no `#`, `(`, `[`, `.` and no layout
(`C01.Ends` and the hypothesis of `C10.mirror_reads_renderer_parenthesisation` are this proposition, written out there) -/
def Ends (rest : List Item) : Prop :=
  ∀ t ts, rest = t :: ts → okNext t.ty = true ∧ ∀ row ∈ Gen.prec, t.ty ≠ row.token

theorem Fol.mono {m m' : Nat} {rest : List Item} (h : Fol m rest) (hm : m ≤ m') : Fol m' rest := by
  cases rest with
  | nil => trivial
  | cons t ts => exact ⟨h.1, fun row hr ht => Nat.lt_of_lt_of_le (h.2 row hr ht) hm⟩

theorem Ends.fol {rest : List Item} (h : Ends rest) : Fol 0 rest := by
  cases rest with
  | nil => trivial
  | cons t ts => exact ⟨(h t ts rfl).1, fun row hrow ht => absurd ht ((h t ts rfl).2 row hrow)⟩

theorem okNext_iff {ty : String} : okNext ty = true ↔
    ty ≠ "Hash" ∧ ty ≠ "LeftParen" ∧ ty ≠ "LeftBracket" ∧ ty ≠ "Period" ∧ isTrivia ty = false := by
  simp only [okNext, Bool.not_eq_true', Bool.or_eq_false_iff, beq_eq_false_iff_ne, and_assoc]

theorem Fol.ws_id {m : Nat} {rest : List Item} (h : Fol m rest) : ws rest = some ((), rest) := by
  cases rest with
  | nil => rfl
  | cons t ts => exact ws_cons (okNext_iff.mp h.1).2.2.2.2

theorem Ends.ws_id {T : List Item} (h : Ends T) : ws T = some ((), T) := h.fol.ws_id

theorem Fol.tok_none {m : Nat} {rest : List Item} (h : Fol m rest) :
    tok "Hash" rest = none ∧ tok "LeftParen" rest = none ∧ tok "LeftBracket" rest = none ∧ tok "Period" rest = none := by
  cases rest with
  | nil => exact ⟨rfl, rfl, rfl, rfl⟩
  | cons t ts =>
    obtain ⟨h1, h2, h3, h4, -⟩ := okNext_iff.mp h.1
    exact ⟨tok_miss h1, tok_miss h2, tok_miss h3, tok_miss h4⟩

theorem Fol.of_rparen {rp : Item} {rest : List Item} (h : rp.ty = "RightParen") : Fol 0 (rp :: rest) :=
  ⟨by simp [okNext_iff, isTrivia_eq_false, h], fun row hrow ht => absurd (ht.symm.trans h) (table_tokens_plain row hrow).2⟩

theorem Fol.of_op {row : Gen.PrecRow} {op : Item} {R : List Item} (hrow : row ∈ Gen.prec) (hop : op.ty = row.token) :
    Fol (row.level + 1) (op :: R) := by
  refine ⟨by rw [hop]; exact (table_tokens_plain row hrow).1, fun row' hrow' ht => ?_⟩
  rw [table_tokens_distinct row' hrow' row hrow (by rw [← ht, hop])]
  exact Nat.lt_succ_self _

theorem ite_bind {α β} {c : Prop} [Decidable c] (x y : Option α) (f : α → Option β) :
    (if c then x else y).bind f = if c then x.bind f else y.bind f := by split <;> rfl

theorem ite_orElse {α} {c : Prop} [Decidable c] (x y : Option α) (f : Unit → Option α) :
    (if c then x else y).orElse f = if c then x.orElse f else y.orElse f := by split <;> rfl

/-! ### `constant()` -/

/-- the token types a literal starts with; besides these only a name in front of `#` (`T#…`, `D#…`) -/
def litStart : List String :=
  ["Real", "Lreal", "Minus", "Plus", "FloatingPoint", "FixedPoint", "Sint", "Int", "Dint", "Lint", "Usint", "Uint", "Udint", "Ulint",
   "BinDigits", "OctDigits", "HexDigits", "Digits", "String", "SingleByteString", "WString", "DoubleByteString", "Time",
   "TimeOfDay", "Date", "DateAndTime", "Byte", "Word", "Dword", "Lword", "Bool", "True", "False"]

/-- `T#…`, `D#…`: a name starts a literal only in front of `#` -/
theorem dtSep_hash {β} {t : Item} {ts : List Item} {s v v' : String} {k : Item → Item → P β} (hs : t.ty ≠ s)
    (hid : t.ty = "Identifier" → tok "Hash" ts = none) :
    ((tok s <|> dtSep v <|> dtSep v') >>= fun a => tok "Hash" >>= k a) (t :: ts) = none := by
  rw [bind_run, orElse_none (tok_miss hs)]
  by_cases hi : t.ty = "Identifier"
  · simp only [dtSep, idEq, tokEq, orElse_run, hi, bind_none (hid hi), BEq.rfl, Bool.true_and, ite_bind, ite_orElse, ite_self,
      Option.bind_none, Option.orElse_none, Option.bind_some, Option.orElse_some]
  · rw [dtSep, idEq, orElse_none (tokEq_miss _ _ _ _ hi), dtSep, idEq, tokEq_miss _ _ _ _ hi]; rfl

theorem constant_none {t : Item} {ts : List Item} (h : t.ty ∉ litStart) (hid : t.ty = "Identifier" → tok "Hash" ts = none) :
    constant (t :: ts) = none := by
  simp only [litStart, List.mem_cons, List.not_mem_nil, or_false, not_or] at h
  have hdur : duration (t :: ts) = none := by rw [duration]; exact dtSep_hash (by simp [h]) hid
  have hdate : date (t :: ts) = none := by rw [date]; exact dtSep_hash (by simp [h]) hid
  simp only [constant, realLiteral, integerLiteral, characterString, singleByteCharacterString, doubleByteCharacterString,
    timeOfDay, dateAndTime, bitStringLiteral, booleanLiteral, optType, realTypeName, integerTypeName,
    signedInteger, integer, binaryInteger, octalInteger, hexInteger, hdur, hdate,
    bind_run, orElse_run, opt_run, tok_miss, ne_eq, h, not_false_eq_true, Option.bind_none, Option.orElse_none, Option.bind_some, pure_run]

theorem signedInteger_digits {t : Item} {ts : List Item} {v : Nat} (h : t.ty = "Digits") (hv : integerNew t.text = some v) :
    signedInteger (t :: ts) = some (sxSigned v false, ts) := by
  simp only [signedInteger, integer, bind_run, orElse_run, opt_run, tok_miss, tok_hit, ne_eq, h, hv, String.reduceEq, not_false_eq_true,
    Option.bind_none, Option.bind_some, Option.orElse_some, pure_run]

theorem constant_digits {t : Item} {ts : List Item} {v : Nat} (h : t.ty = "Digits") (hv : integerNew t.text = some v) :
    constant (t :: ts) =
      some (.t "IntegerLiteral" [.n "IntegerLiteral" [("value", sxSigned v false), ("data_type", Sx.none')]], ts) := by
  simp only [constant, realLiteral, integerLiteral, optType, realTypeName, integerTypeName, binaryInteger, octalInteger, hexInteger,
    signedInteger_digits h hv, bind_run, orElse_run, opt_run, tok_miss, ne_eq, h, String.reduceEq, not_false_eq_true,
    Option.bind_none, Option.orElse_none, Option.bind_some, Option.orElse_some, pure_run]

/-! ### the rules around an operand -/

theorem identifier_hit {t : Item} {ts : List Item} (h : t.ty = "Identifier") : identifier (t :: ts) = some (.a (txt t), ts) := by
  rw [identifier, bind_some (tok_hit h)]; rfl

theorem first_identifier : First ["Identifier"] identifier := (First.tok _).bind _

/-- `function_expression()` needs `name (`  -/
theorem functionExpression_none {g : Nat} {t : Item} {ts : List Item}
    (h : t.ty ≠ "Identifier" ∨ ws ts = some ((), ts) ∧ tok "LeftParen" ts = none) : functionExpression g (t :: ts) = none := by
  cases g with
  | zero => rw [functionExpression]; rfl
  | succ g =>
    rw [functionExpression]
    by_cases ht : t.ty = "Identifier"
    · obtain ⟨hws, hn⟩ := h.resolve_left (not_not_intro ht)
      rw [bind_some (identifier_hit ht), bind_some hws]
      exact bind_none hn
    · exact bind_none (first_identifier.ne ht)

theorem first_symbolicVariable : ∀ g, First ["Identifier"] (symbolicVariable g)
  | 0 => by rw [symbolicVariable]; exact .fail
  | g + 1 => by rw [symbolicVariable]; exact first_identifier.bind _

theorem first_variableP : ∀ g, First ["DirectAddress", "Identifier"] (variableP g)
  | 0 => by rw [variableP]; exact .fail
  | g + 1 => by
    rw [variableP, directVariable]
    exact (((First.tok _).bind _).bind _).orElse ((first_symbolicVariable g).bind _)

/-- an operand: an optional unary operator (`u` says which) and a primary.  `generalizing := false` makes the `match` the one
of `unaryExpression` (otherwise the hypotheses are abstracted into it and the closing `rfl` fails). -/
theorem atom_reads {g : Nat} {ts ts' rest : List Item} {e : Sx} {u : Option String}
    (hu : P.opt ((do let _ ← tok "Minus"; pure "Neg") <|> (do let _ ← tok "Not"; pure "Not")) ts = some (u, ts'))
    (hws : ws ts' = some ((), ts')) (hp : primaryExpression g ts' = some (e, rest)) :
    atom (g + 2) ts = some (match (generalizing := false) u with
      | some op => .t "UnaryOp" [.n "UnaryExpr" [("op", .a op), ("term", e)]]
      | none => e, rest) := by
  rw [atom]
  apply orElse_some
  rw [unaryExpression, bind_some hu, bind_some hws, bind_some hp]
  rfl

/-! ### the loop of `climb` -/

theorem findSome_unique {α β} {L : List α} {f : α → Option β} {a : α} {v : β} (ha : a ∈ L) (hv : f a = some v)
    (h : ∀ b ∈ L, b ≠ a → f b = none) : L.findSome? f = some v := by
  induction L with
  | nil => cases ha
  | cons x xs ih =>
    rw [List.findSome?_cons]
    by_cases hx : x = a
    · rw [hx, hv]
    · rw [h x (List.mem_cons_self ..) hx]
      exact ih ((List.mem_cons.mp ha).resolve_left (Ne.symm hx)) fun b hb => h b (List.mem_cons_of_mem _ hb)

/-- one operator row tried at the head of the loop (the `tryRow` of `climbLoop`) -/
def tryRow (g m : Nat) (lhs : Sx) (ts : List Item) (row : Gen.PrecRow) : Option (Sx × List Item) :=
  if row.level < m then none else
  (do ws; let _ ← tok row.token; ws
      let rhs ← climb g (if row.leftAssoc then row.level + 1 else row.level)
      pure (applyOp row lhs rhs)) ts

theorem climbLoop_succ (g m : Nat) (lhs : Sx) (ts : List Item) :
    climbLoop (g + 1) m lhs ts = match Gen.prec.findSome? (tryRow g m lhs ts) with
      | some (e, rest) => climbLoop g m e rest
      | none => some (lhs, ts) := by
  rw [climbLoop]; rfl

theorem tryRow_miss {g m : Nat} {lhs : Sx} {ts : List Item} {row : Gen.PrecRow} (hws : ws ts = some ((), ts))
    (h : tok row.token ts = none) : tryRow g m lhs ts row = none := by
  unfold tryRow
  split
  · rfl
  · rw [bind_some hws]; exact bind_none h

theorem climbLoop_stop {g m : Nat} {lhs : Sx} {rest : List Item} (h : Fol m rest) :
    climbLoop g m lhs rest = some (lhs, rest) := by
  cases g with
  | zero => rw [climbLoop]; rfl
  | succ g =>
    have hnone : Gen.prec.findSome? (tryRow g m lhs rest) = none := by
      rw [List.findSome?_eq_none_iff]
      intro row hrow
      by_cases hl : row.level < m
      · simp only [tryRow, hl, if_true]
      · apply tryRow_miss h.ws_id
        cases rest with
        | nil => rfl
        | cons t ts => exact tok_miss fun ht => hl (h.2 row hrow ht)
    rw [climbLoop_succ, hnone]

/-- one turn of the loop: the operator `row` (its token first in the input) with a right operand that
`climb` reads at the level above -/
theorem climbLoop_step {G m : Nat} {lhs rhs : Sx} {row : Gen.PrecRow} {op : Item} {R R' : List Item}
    (hrow : row ∈ Gen.prec) (hop : op.ty = row.token) (hm : m ≤ row.level) (hwsR : ws R = some ((), R))
    (hrhs : climb G (row.level + 1) R = some (rhs, R')) :
    climbLoop (G + 1) m lhs (op :: R) = climbLoop G m (applyOp row lhs rhs) R' := by
  have hwsop : ws (op :: R) = some ((), op :: R) := (Fol.of_op hrow hop).ws_id
  have hfind : Gen.prec.findSome? (tryRow G m lhs (op :: R)) = some (applyOp row lhs rhs, R') := by
    apply findSome_unique hrow
    · rw [tryRow, if_neg (Nat.not_lt.mpr hm), bind_some hwsop, bind_some (tok_hit hop), bind_some hwsR, table_left_assoc row hrow,
        if_pos rfl, bind_some hrhs]
      rfl
    · intro b hb hne
      exact tryRow_miss hwsop (tok_miss fun ht => hne (table_tokens_distinct b hb row hrow (by rw [← ht, hop])))
  rw [climbLoop_succ, hfind]

/-! ### the round trip -/

theorem ws_toks {s : S} {c : Nat} (h : s.WF c) {rest : List Item} : ws (s.toks ++ rest) = some ((), s.toks ++ rest) := by
  obtain ⟨t, ts, hts, ht, -⟩ := S.head h
  rw [hts]
  exact ws_cons (not_trivia_of t _ ht (by simp [isTrivia_eq_false]))

/-- `climb` reads `s.toks` and arrives in its loop with the tree of `s`; of its fuel it has used up `s.d`, going down the left
spine of `s`.  `c` is the level at which `s` is well-formed, `m ≤ c` the minimum of the loop; an operator behind `s` binds
at most as tightly as `c`. -/
def S.ClimbReads (s : S) : Prop :=
  ∀ c m rest G, s.WF c → m ≤ c → Fol (c + 1) rest → s.need ≤ G + s.d →
    climb (G + s.d) m (s.toks ++ rest) = climbLoop G m s.sx rest

/-- `primaryExpression` reads `s.toks` as the tree of `s`; its fuel `g` is what `climb (g + 3)` hands down through `atom` and
`unaryExpression` -/
def S.PrimaryReads (s : S) : Prop :=
  ∀ c rest g, s.WF 0 → Fol c rest → s.need ≤ g + 3 → primaryExpression g (s.toks ++ rest) = some (s.sx, rest)

/-- an identifier that is not followed by `#`, `(`, `[` or `.` is a late-bound name -/
theorem S.leaf_reads (t : Item) : (S.leaf t).PrimaryReads := fun c rest g ht hf hg => by
  obtain ⟨g, rfl⟩ := Nat.exists_eq_add_of_le' (Nat.le_of_add_le_add_right (show 1 + 3 ≤ g + 3 from hg))
  have ht : t.ty = "Identifier" := ht
  obtain ⟨hHash, hLp, hLb, hPer⟩ := hf.tok_none
  show primaryExpression (g + 1) (t :: rest) = _
  rw [primaryExpression, orElse_none (bind_none (constant_none (by simp [ht, litStart]) fun _ => hHash)),
    orElse_none (functionExpression_none (.inr ⟨hf.ws_id, hLp⟩))]
  apply orElse_some
  have hnot : notP (tok "LeftParen" <|> tok "LeftBracket" <|> tok "Period") rest = some ((), rest) := by
    simp only [notP, orElse_none hLp, orElse_none hLb, hPer]
  rw [bind_some (identifier_hit ht), bind_some hf.ws_id, bind_some hnot]
  rfl

theorem S.num_reads (t : Item) (v : Nat) : (S.num t v).PrimaryReads := fun c rest g ht _ hg => by
  obtain ⟨g, rfl⟩ := Nat.exists_eq_add_of_le' (Nat.le_of_add_le_add_right (show 1 + 3 ≤ g + 3 from hg))
  show primaryExpression (g + 1) (t :: rest) = _
  rw [primaryExpression]
  apply orElse_some
  rw [bind_some (constant_digits ht.1 ht.2)]
  rfl

/-- `( expression )` as a primary: the inner expression, no node for the parentheses -/
theorem S.paren_reads {lp rp : Item} {s : S} (h : s.ClimbReads) : (S.paren lp rp s).PrimaryReads :=
  fun c rest g ⟨hlp, hrp, hws⟩ _ hg => by
  have hds := S.d_le_need s
  simp only [S.need] at hg
  obtain ⟨g, rfl⟩ := Nat.exists_eq_add_of_le' (show s.d + 2 ≤ g by omega)
  have hinner : expression (g + s.d + 1) (s.toks ++ rp :: rest) = some (s.sx, rp :: rest) := by
    rw [expression, h 0 0 (rp :: rest) g hws (Nat.le_refl _) ((Fol.of_rparen hrp).mono (Nat.zero_le _)) (by omega)]
    exact climbLoop_stop (Fol.of_rparen hrp)
  have hni : lp.ty ≠ "Identifier" := by simp [hlp]
  show primaryExpression (g + s.d + 1 + 1) (lp :: (s.toks ++ [rp] ++ rest)) = _
  rw [List.append_assoc, List.singleton_append, primaryExpression,
    orElse_none (bind_none (constant_none (by simp [hlp, litStart]) fun h => absurd h hni)),
    orElse_none (functionExpression_none (.inl hni)), orElse_none (bind_none (first_identifier.ne hni)),
    orElse_none (bind_none ((first_variableP _).cons (by simp [hlp]))),
    bind_some (tok_hit hlp), bind_some (ws_toks hws), bind_some hinner, bind_some (ws_hd hrp), bind_some (tok_hit hrp)]
  rfl

/-- an operand that is a primary: no unary operator, then `primaryExpression` -/
theorem S.PrimaryReads.toClimb {s : S} (h : s.PrimaryReads) (hs : s.isPrimary = true) : s.ClimbReads := by
  intro c m rest G hwf _ hf hG
  -- `WF` of a primary does not look at the level
  obtain ⟨hd, hn, hwf0⟩ : s.d = 1 ∧ 4 ≤ s.need ∧ s.WF 0 := by
    cases s with
    | un | bin => cases hs
    | _ => exact ⟨rfl, by unfold S.need; omega, hwf⟩
  rw [hd] at hG ⊢
  obtain ⟨g, rfl⟩ := Nat.exists_eq_add_of_le' (show 2 ≤ G by omega)
  obtain ⟨t, ts, hts, -, ht⟩ := S.head hwf
  have hu : P.opt ((do let _ ← tok "Minus"; pure "Neg") <|> (do let _ ← tok "Not"; pure "Not")) (s.toks ++ rest)
      = some (none, s.toks ++ rest) := by
    rw [hts, List.cons_append]
    apply opt_none
    rw [orElse_none (bind_none (tok_miss (ht hs).1))]
    exact bind_none (tok_miss (ht hs).2)
  rw [climb, bind_some (atom_reads hu (ws_toks hwf) (h _ rest g hwf0 hf hG))]

/-- both at once, by induction on `s`: a parenthesis holds an expression, an operator its operands -/
theorem S.reads (s : S) : s.ClimbReads ∧ (s.isPrimary = true → s.PrimaryReads) := by
  induction s with
  | leaf t => exact ⟨(S.leaf_reads t).toClimb rfl, fun _ => S.leaf_reads t⟩
  | num t v => exact ⟨(S.num_reads t v).toClimb rfl, fun _ => S.num_reads t v⟩
  | paren lp rp s ih => exact ⟨(S.paren_reads ih.1).toClimb rfl, fun _ => S.paren_reads ih.1⟩
  | un op neg p ih =>
    refine ⟨?_, nofun⟩
    intro c m rest G ⟨hop, hprimary, hwfp⟩ _ hf hG
    simp only [S.need, S.d] at hG
    obtain ⟨g, rfl⟩ := Nat.exists_eq_add_of_le' (show 2 ≤ G by omega)
    have hu : P.opt ((do let _ ← tok "Minus"; pure "Neg") <|> (do let _ ← tok "Not"; pure "Not")) (op :: (p.toks ++ rest))
        = some (some (if neg then "Neg" else "Not"), p.toks ++ rest) := by
      apply opt_some
      cases neg with
      | true => exact orElse_some (by rw [bind_some (tok_hit (show op.ty = "Minus" from hop))]; rfl)
      | false =>
        have hop : op.ty = "Not" := hop
        rw [orElse_none (bind_none (tok_miss (by simp [hop]))), bind_some (tok_hit hop)]; rfl
    show climb (g + 2 + 1) m (op :: (p.toks ++ rest)) = _
    rw [climb, bind_some (atom_reads hu (ws_toks hwfp) (ih.2 hprimary _ rest g hwfp hf (by omega)))]
    rfl
  | bin row op l r ihl ihr =>
    refine ⟨?_, nofun⟩
    intro c m rest G ⟨hrow, hop, hc, hwl, hwr⟩ hm hf hG
    have hdl := S.d_le_need l
    have hdr := S.d_le_need r
    simp only [S.need, S.d] at hG
    -- the right operand, read one level above the operator, stops in front of `rest`
    obtain ⟨G, rfl⟩ := Nat.exists_eq_add_of_le' (show r.d ≤ G by omega)
    have hrhs : climb (G + r.d) (row.level + 1) (r.toks ++ rest) = some (r.sx, rest) := by
      rw [ihr.1 (row.level + 1) (row.level + 1) rest G hwr (Nat.le_refl _) (hf.mono (Nat.succ_le_succ (Nat.le_succ_of_le hc))) (by omega)]
      exact climbLoop_stop (hf.mono (Nat.succ_le_succ hc))
    have hR : (S.bin row op l r).toks ++ rest = l.toks ++ (op :: (r.toks ++ rest)) := by
      simp only [S.toks, List.append_assoc, List.cons_append]
    -- of the fuel, `l.d` goes down the left spine, 1 is the turn of the loop that takes `op`, `G + r.d` is left for `r`
    rw [hR, show G + r.d + (S.bin row op l r).d = G + r.d + 1 + l.d by simp only [S.d]; omega,
      ihl.1 row.level m (op :: (r.toks ++ rest)) _ hwl (Nat.le_trans hm hc) (Fol.of_op hrow hop) (by omega),
      climbLoop_step hrow hop (Nat.le_trans hm hc) (ws_toks hwr) hrhs]
    rfl

/-- **The mirror reads every well-formed expression token list back as its tree.**  `rest` is what
follows the expression: anything that does not continue it (no operator of the table, no `#`, `(`,
`[`, `.`, no layout). -/
theorem expression_reads {s : S} {rest : List Item} {F : Nat} (hwf : s.WF 0) (hrest : Ends rest) (hF : s.need + 1 ≤ F) :
    expression F (s.toks ++ rest) = some (s.sx, rest) := by
  have hd := S.d_le_need s
  obtain ⟨F, rfl⟩ := Nat.exists_eq_add_of_le' (show s.d + 1 ≤ F by omega)
  rw [← Nat.add_assoc, expression, s.reads.1 0 0 rest F hwf (Nat.le_refl _) (hrest.fol.mono (Nat.zero_le _)) (by omega)]
  exact climbLoop_stop hrest.fol

/-- … with the fuel the driver gives the parser (`Parse.fuelFor` of the number of tokens) -/
theorem expression_roundtrip {s : S} (hwf : s.WF 0) {rest : List Item} (hrest : Ends rest) :
    expression (fuelFor (s.toks ++ rest).length) (s.toks ++ rest) = some (s.sx, rest) := by
  apply expression_reads hwf hrest
  have := S.need_le s
  rw [fuelFor, List.length_append]
  omega

/-! ### expression trees and their two printings -/

/-- an expression tree as the dsl holds it (no parentheses): names, unsigned integers, unary and binary operators, each
with the token it was / will be written with -/
inductive E where
  | leaf (t : Item)
  | num (t : Item) (v : Nat)
  | un (op : Item) (neg : Bool) (e : E)
  | bin (row : Gen.PrecRow) (op : Item) (l r : E)

namespace E

/-- tokens carry the right types and the operators are rows of the generated table -/
def Ok : E → Prop
  | leaf t => t.ty = "Identifier"
  | num t v => t.ty = "Digits" ∧ integerNew t.text = some v
  | un op neg e => op.ty = (if neg then "Minus" else "Not") ∧ Ok e
  | bin row op l r => row ∈ Gen.prec ∧ op.ty = row.token ∧ Ok l ∧ Ok r

/-- the tree of the grammar actions -/
def sx : E → Sx
  | leaf t => .t "LateBound" [.n "LateBound" [("name", .a (txt t))]]
  | num _ v => .t "Const" [.t "IntegerLiteral" [.n "IntegerLiteral" [("value", sxSigned v false), ("data_type", Sx.none')]]]
  | un _ neg e => .t "UnaryOp" [.n "UnaryExpr" [("op", .a (if neg then "Neg" else "Not")), ("term", e.sx)]]
  | bin row _ l r => applyOp row l.sx r.sx

/-- minimal parentheses (Annex B.3.1): around a binary node that binds less tightly than its context
`c` requires, and around the operand of a unary operator unless it is a name or a number -/
def pr (lp rp : Item) : Nat → E → S
  | _, leaf t => .leaf t
  | _, num t v => .num t v
  | _, un op neg (leaf t) => .un op neg (.leaf t)
  | _, un op neg (num t v) => .un op neg (.num t v)
  | _, un op neg e => .un op neg (.paren lp rp (pr lp rp 0 e))
  | c, bin row op l r =>
    let body := S.bin row op (pr lp rp row.level l) (pr lp rp (row.level + 1) r)
    if row.level < c then .paren lp rp body else body

/-- the renderer's printing: every binary node in parentheses, a unary operand in parentheses exactly
when it is itself a unary expression (a binary operand already has its own) -/
def full (lp rp : Item) : E → S
  | leaf t => .leaf t
  | num t v => .num t v
  | un op neg (leaf t) => .un op neg (.leaf t)
  | un op neg (num t v) => .un op neg (.num t v)
  | un op neg (un op' neg' e) => .un op neg (.paren lp rp (full lp rp (un op' neg' e)))
  | un op neg (bin row o l r) => .un op neg (full lp rp (bin row o l r))
  | bin row op l r => .paren lp rp (.bin row op (full lp rp l) (full lp rp r))

theorem pr_sx (lp rp : Item) (e : E) : ∀ c, (pr lp rp c e).sx = e.sx := by
  induction e with
  | leaf | num => intro c; rfl
  | un op neg e ih =>
    intro c
    cases e with
    | leaf | num => rfl
    | un | bin =>
      show Sx.t "UnaryOp" [.n "UnaryExpr" [("op", _), ("term", (pr lp rp 0 _).sx)]] = _
      rw [ih 0]; rfl
  | bin row op l r ihl ihr =>
    intro c
    simp only [pr]
    split <;> simp only [S.sx, sx, ihl, ihr]

theorem pr_wf (lp rp : Item) (hlp : lp.ty = "LeftParen") (hrp : rp.ty = "RightParen") (e : E) :
    e.Ok → ∀ c, (pr lp rp c e).WF c := by
  induction e with
  | leaf | num => intro h _; exact h
  | un op neg e ih =>
    intro h c
    cases e with
    | leaf | num => exact ⟨h.1, rfl, h.2⟩
    | un | bin => exact ⟨h.1, rfl, hlp, hrp, ih h.2 0⟩
  | bin row op l r ihl ihr =>
    intro h c
    obtain ⟨hrow, hop, hl, hr⟩ := h
    simp only [pr]
    split
    next => exact ⟨hlp, hrp, hrow, hop, Nat.zero_le _, ihl hl _, ihr hr _⟩
    next hc => exact ⟨hrow, hop, Nat.le_of_not_lt hc, ihl hl _, ihr hr _⟩

theorem full_sx (lp rp : Item) (e : E) : (full lp rp e).sx = e.sx := by
  induction e with
  | leaf | num => rfl
  | un op neg e ih =>
    cases e with
    | leaf | num => rfl
    | un | bin =>
      show Sx.t "UnaryOp" [.n "UnaryExpr" [("op", _), ("term", (full lp rp _).sx)]] = _
      rw [ih]; rfl
  | bin row op l r ihl ihr => simp only [full, S.sx, sx, ihl, ihr]

theorem full_wf (lp rp : Item) (hlp : lp.ty = "LeftParen") (hrp : rp.ty = "RightParen") (e : E) :
    e.Ok → ∀ c, (full lp rp e).WF c := by
  induction e with
  | leaf | num => intro h _; exact h
  | un op neg e ih =>
    intro h c
    cases e with
    | leaf | num => exact ⟨h.1, rfl, h.2⟩
    | un => exact ⟨h.1, rfl, hlp, hrp, ih h.2 0⟩
    | bin => exact ⟨h.1, rfl, ih h.2 0⟩
  | bin row op l r ihl ihr =>
    intro h c
    obtain ⟨hrow, hop, hl, hr⟩ := h
    exact ⟨hlp, hrp, hrow, hop, Nat.zero_le _, ihl hl _, ihr hr _⟩

end E

end MX

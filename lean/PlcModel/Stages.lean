import PlcModel.Analyze
import PlcModel.Gen.Stages

/-!
# The analysis pipeline as a table of stages

`Analyze.analyzeDecls` writes the pipeline of `stages.rs` as a chain of `if`s.  Here the same pipeline is a
table — one entry per transform of `resolve_types` (what makes it abort, with which codes) and one per rule
of `semantic` (the rule function and the problem codes it may report) — named like the Rust modules, so
that the order of the stages and the codes each stage names can be compared with the tables the translator
re-extracts from `stages.rs`, the stage modules and `problem-codes.csv` on every run (`Gen/Stages.lean`).
`C02.staged_pipeline` (`PlcProofs/Props/C02.lean`) proves that running the table is `analyzeDecls`.
-/

structure XformStage where
  name : String
  /-- the problem codes the model lets this transform abort with -/
  codes : List Nat
  /-- `some g`: the transform returns `Err` with the diagnostics `g` and the analysis ends here -/
  abort : List ADecl → Option Groups

structure RuleStage where
  name : String
  /-- the problem codes the model lets this rule report -/
  codes : List Nat
  run : List ADecl → Groups

def xformStages : List XformStage := [
  { name := "xform_toposort_declarations", codes := [P0010, P0019, P0020],
    abort := fun ds =>
      if recursive ds then some [[P0010]]
      else if !(dupCodes ds).isEmpty then some ((dupCodes ds).eraseDups.map fun c => [c])
      else none },
  { name := "xform_resolve_late_bound_data_decl", codes := [P9999],
    abort := fun ds => if aliasUnsupported ds then some [[P9999]] else none },
  { name := "xform_resolve_late_bound_expr_kind", codes := [P9999],
    abort := fun ds => if exprUnsupported ds then some [[P9999]] else none },
  { name := "xform_resolve_late_bound_type_initializer", codes := [P0020, P0022, P9999],
    abort := fun ds =>
      if typeFbClash ds then some [[P0020]]
      else if typeInitUnsupported ds then some [[P9999]]
      else if !(unknownTypes ds).isEmpty then some [[P0022]]
      else none }
]

def ruleStages : List RuleStage := [
  { name := "rule_decl_struct_element_unique_names", codes := [P0003], run := ruleStruct },
  { name := "rule_decl_subrange_limits", codes := [P0004], run := ruleSubrange },
  { name := "rule_enumeration_values_unique", codes := [P0005], run := ruleEnumUnique },
  { name := "rule_function_block_invocation", codes := [P0006, P0007, P0008, P0009, P0021], run := ruleFbCall },
  { name := "rule_program_task_definition_exists", codes := [P0011], run := ruleTask },
  { name := "rule_use_declared_enumerated_value", codes := [P0012, P0014], run := ruleEnumUse },
  { name := "rule_use_declared_symbolic_var", codes := [P0015], run := ruleVarUse },
  { name := "rule_unsupported_stdlib_type", codes := [P0029], run := ruleStdlib },
  { name := "rule_var_decl_const_initialized", codes := [P0016, P9999], run := ruleConstInit },
  { name := "rule_var_decl_const_not_fb", codes := [P0017], run := ruleConstFb },
  { name := "rule_var_decl_global_const_requires_external_const", codes := [P0018], run := ruleExternalConst }
]

/-- `resolve_types` then `semantic`: the first transform that aborts ends the analysis with its
diagnostics (`library = xform(library)?`); otherwise every rule runs and the diagnostics are concatenated -/
def analyzeStaged (ds : List ADecl) : Groups :=
  match xformStages.findSome? (fun s => s.abort ds) with
  | some g => g
  | none => ruleStages.flatMap (fun s => s.run ds)

/-- the codes of `Gen.stageProblems` for a stage module -/
def namedInSource (name : String) : List Nat :=
  match Gen.stageProblems.find? (fun e => e.1 == name) with
  | some e => e.2
  | none => []

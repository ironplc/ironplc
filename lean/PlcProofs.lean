import PlcProofs.Props.C01
import PlcProofs.Props.C02
import PlcProofs.Props.C03
import PlcProofs.Props.C04
import PlcProofs.Props.C05
import PlcProofs.Props.C06
import PlcProofs.Props.C07
import PlcProofs.Props.C08
import PlcProofs.Props.C09
import PlcProofs.Props.C10
import PlcProofs.Props.C11
import PlcProofs.Props.C12
import PlcProofs.Props.C13
import PlcProofs.Props.C14
import PlcProofs.Props.C15
